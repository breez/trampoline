/- The library: the model, and every property module (each imports the lemmas it rests on), so that
   `lake build` checks the whole development. The `driver` executable imports the model files only. -/
import Tramp.Model.Bytes
import Tramp.Model.Fee
import Tramp.Model.Classify
import Tramp.Model.Node
import Tramp.Model.Provider
import Tramp.Model.Config
import Tramp.Model.Spec
import Tramp.Model.Height
import Tramp.Model.Wire
import Tramp.Model.System
import Tramp.Model.Product
import Tramp.Props.C01
import Tramp.Props.C02
import Tramp.Props.C03
import Tramp.Props.C04
import Tramp.Props.C05
import Tramp.Props.C06Fair
import Tramp.Props.C07
import Tramp.Props.C08
import Tramp.Props.C09
import Tramp.Props.C10
import Tramp.Props.C11
import Tramp.Props.C12Sys
import Tramp.Props.C13Sys
import Tramp.Props.C14Fair
import Tramp.Props.C14Term
import Tramp.Props.C15
import Tramp.Props.C16
import Tramp.Props.C17
import Tramp.Props.C18
import Tramp.Props.C19
import Tramp.Props.C20
