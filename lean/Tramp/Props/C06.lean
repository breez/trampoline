/-
C06 — Every htlc_accepted call gets exactly one response; no input panics or hangs it.

Statement: every htlc_accepted invocation eventually yields exactly one well-formed response
(continue, fail or resolve) for arbitrary payload bytes, amounts and expiries and under every
interleaving, provided the node's RPC keeps answering (with results or errors). No request can make
the handler panic, deadlock or stay unanswered, and HTLCs of sets that never complete are answered no
later than one MPP timeout after the plugin has read the payment's stored state.

What is proved in this file (safety, and the measure the liveness files rest on):
  * no panic: byte-level functions are total (C18, C12), classification is a total function, and no
    reachable state of M7 has a panicked task (`c06_no_panic`) — write faults included;
  * at most one response per call, and it is one of continue/fail/resolve (`c06_at_most_once`,
    `c06_immediate_or_held`); over whole runs — any interleaving, crash points, write faults — the ids
    answered are pairwise distinct and each is the id of a call that did arrive
    (`c06_at_most_once_run`);
  * no deadlock on the plugin's own channels: the two sends made under the table lock never find
    their capacity-1 channel full (`c06_nonblocking_sends`);
  * progress: a live owner always has an RPC in flight, or an enabled internal step, or an armed
    timer (`c06_owner_progress`); every step of the owner task ends the lifecycle or decreases a
    well-founded measure (`c06_owner_steps_decrease`, `c06_measure_wf`); a set that never completes is
    answered when the timer fires, and the timer is armed at most one MPP timeout ahead (C11).
"Eventually" is proved in C06Live (deadlock freedom), C06Term (termination of internal activity, what
the plugin waits on at rest) and C06Fair (every fair infinite run answers every held HTLC, exactly
once). Partial: that the tokio scheduler and the node ARE fair is E8; suite `system` drains every
schedule (the environment answers everything, time passes) and requires every call to be answered;
suite `e2e` does it at process level.
Known finding K4: with a READ fault on the restart path the owner hits `todo!()`.
-/
import Tramp.Proofs.SysOnce
import Tramp.Proofs.SysMeasure
import Tramp.Props.Sys
import Tramp.Props.C18
import Tramp.Props.C12
import Tramp.Props.C13

namespace Tramp

/-- no reachable state has a panicked task -/
theorem c06_no_panic (c : Cfg) (s : SState) (hr : Reach c s) : s.panicked = false := by
  obtain ⟨acts, hf, hrun⟩ := hr
  exact no_panic_run c acts _ s (sinv_init _) hf hrun

/-- the byte-level entry points never panic, for any bytes and any numbers -/
theorem c06_bytes_total (bs : Bytes) (base ppm total inv : Nat) :
    fromBytes bs ≠ .panic ∧ tryFromPrefixed bs ≠ .panic ∧ (∃ b, feeSufficient base ppm total inv = .ok b) :=
  ⟨c18_total_fromBytes bs, c18_total_tryFrom bs, c12_total base ppm total inv⟩

/-- every request is either answered at once with continue/fail, or held as a trampoline HTLC -/
theorem c06_immediate_or_held (parse : Bytes → Option InvoiceView) (allow : Bool) (req : Req) :
    (∃ i f, classify parse allow req = .tramp i f) ∨ (∃ p, classify parse allow req = .cont p) ∨
    classify parse allow req = .failTNF :=
  (c13_immediate parse allow req).imp_right (Or.imp_right And.left)

theorem count_id_one : ∀ (l : List Inv), (l.map (·.id)).Nodup → ∀ {i : Inv}, i ∈ l → ∀ (r : Resp),
    ((respAll ⟨⟨0, 0, false⟩, l, false, false, false, none, 0, 0, false⟩ r).filter
      (fun x => match x with | .resp j _ => j.id == i.id | _ => false)).length = 1 ∧ True := by
  intro l hnd i hi r
  -- the responses that carry `i.id` are counted by the occurrences of `i.id` among the ids
  have h := hnd.count (a := i.id)
  rw [if_pos (List.mem_map_of_mem hi), List.count_eq_countP, List.countP_map] at h
  rw [← List.countP_eq_length_filter, respAll, List.countP_map]
  exact ⟨h, trivial⟩

/-- a held HTLC is answered at most once: the step that answers it removes the whole entry, and the
    ids of the calls held are pairwise distinct and below the counter that numbers later calls -/
theorem c06_at_most_once (c : Cfg) (s s' : SState) (a : SAct) (outs : List Out) (i : Inv) (r : Resp)
    (hr : Reach c s) (hs : sstep c .current s a = some (s', outs)) (ho : Out.resp i r ∈ outs) :
    s'.active = none ∧
    (∃ e o, s.active = some (e, o) ∧ i ∈ e.listeners ∧ (e.listeners.map (·.id)).Nodup ∧ i.id < s.nextInv) ∧
    (outs.filter (fun x => match x with | .resp j _ => j.id == i.id | _ => false)).length = 1 := by
  obtain ⟨e, o, hact, hmem, rfl, hnone, _⟩ := (hr.emit a hs).resp ho
  have hids := (hr.einv e o hact).ids
  exact ⟨hnone, ⟨e, o, hact, hmem, hids.1, hids.2 i hmem⟩, (count_id_one e.listeners hids.1 hmem r).1⟩

/-- Over EVERY run (any interleaving, any number of HTLCs and lifecycles, crash points, write
    faults) no call is answered twice, and only calls that arrived are answered: the ids in the
    response outputs of the whole history are pairwise distinct and below the call counter. -/
theorem c06_at_most_once_run (c : Cfg) (acts : List SAct) (s : SState) (outs : List Out)
    (hf : WriteFaultsOnly acts) (hr : srunO c .current SState.init acts = some (s, outs)) :
    (respIds outs).Nodup ∧ ∀ x ∈ respIds outs, x < s.nextInv := by
  have h0 := einv_reachable c [] SState.init rfl
  have h := once_init.run h0.1 h0.2 acts hr
  exact ⟨h.nodup, h.below⟩

/-- non-vacuity: in the demo run extended by the delivery of the pay result, call 0 is answered (once) -/
example : ∃ s outs, srunO demoCfg .current SState.init (demoActs ++ [.deliver .owner (.prov .pay)]) = some (s, outs) ∧
    respIds outs = [0] := ⟨_, _, rfl, rfl⟩

/-- the sends made while the table lock is held never block: the fail channel is empty whenever
    `fail()` is about to send, the ready channel is empty whenever `add_htlc` is about to send -/
theorem c06_nonblocking_sends (c : Cfg) (s : SState) (e : PEntry) (o : Owner) (hr : Reach c s)
    (hact : s.active = some (e, o)) :
    (e.isFailReq = false → e.failBuf = none) ∧ (e.canReady c = true → e.readyBuf = false) := by
  have he := hr.einv e o hact
  refine ⟨fun hf => ?_, fun hc => ?_⟩
  · cases hb : e.failBuf with
    | none => rfl
    | some r => exact absurd ((he.failBuf r hb).1.symm.trans hf) Bool.noConfusion
  · simp only [PEntry.canReady, Bool.and_eq_true, Bool.not_eq_true'] at hc
    cases hb : e.readyBuf with
    | false => rfl
    | true =>
      rcases he.sentOr (he.readyBuf hb) with h | h
      · exact absurd (h.symm.trans hc.1.1) Bool.noConfusion
      · exact absurd (h.symm.trans hc.1.2) Bool.noConfusion

/-- a live owner is never stuck on the plugin's side: it waits for the node (an RPC is in flight), or
    sits in the `select!` with its timer armed, or has an enabled internal step -/
theorem c06_owner_progress (c : Cfg) (s : SState) (e : PEntry) (o : Owner) (hact : s.active = some (e, o)) :
    o.pc = .panicked ∨
    (∃ w aid g t, o.pc = .rWait aid g t w) ∨ (∃ aid g p, o.pc = .paying aid g p) ∨
    (o.pc.outstanding .current ≠ []) ∨
    (∃ d, o.pc = .waitHtlcs d ∧ (s.mono ≥ d → (sstep c .current s .timerFire).isSome)) ∨
    (sstep c .current s .readParams).isSome ∨ (sstep c .current s .readHeight).isSome := by
  cases hpc : o.pc with
  | panicked => exact Or.inl rfl
  | rWait aid g t w => exact Or.inr (Or.inl ⟨w, aid, g, t, rfl⟩)
  | paying aid g p => exact Or.inr (Or.inr (Or.inl ⟨aid, g, p, rfl⟩))
  | fetch | rFailA | rFailS | addS | addA => exact Or.inr (Or.inr (Or.inr (Or.inl (List.cons_ne_nil _ _))))
  | waitHtlcs d => exact Or.inr (Or.inr (Or.inr (Or.inr (Or.inl ⟨d, rfl, fun hd => (Step.timerFire hact hpc hd).enabled⟩))))
  | gotReady => exact Or.inr (Or.inr (Or.inr (Or.inr (Or.inr (Or.inl (Step.readParams hact hpc).enabled)))))
  | gotParams mf exp => exact Or.inr (Or.inr (Or.inr (Or.inr (Or.inr (Or.inr (Step.readHeight hact hpc).enabled)))))

/-- measure of the live lifecycle (nothing live: the minimum) -/
def ownerMeas (s : SState) : Nat × Nat :=
  match s.active with
  | some (_, o) => o.pc.meas
  | none => (0, 0)

/-- the steps the owner task itself takes -/
def SAct.isOwnerStep : SAct → Bool
  | .deliver .owner _ => true
  | .timerFire | .takeFail | .takeReady | .readParams | .readHeight => true
  | _ => false

theorem ownerMeas_eq {s : SState} {e : PEntry} {o : Owner} (h : s.active = some (e, o)) : ownerMeas s = o.pc.meas := by
  unfold ownerMeas; rw [h]

/-- a step of the owner task is taken by a live lifecycle; it answers everybody with one response and ends the
    lifecycle, or the lifecycle goes on with the same listeners and, where the invariant holds, a smaller measure:
    the invariant supplies that replies have the kind of their request and that the `todo!()` of the restart
    path is not reached -/
theorem owner_step_meas (c : Cfg) {s s' : SState} {a : SAct} {outs : List Out} (ha : a.isOwnerStep = true)
    (hs : sstep c .current s a = some (s', outs)) :
    ∃ e o, s.active = some (e, o) ∧
      ((s'.active = none ∧ ∃ rr, outs = respAll e rr) ∨
       ∃ e' o', s'.active = some (e', o') ∧ e'.listeners = e.listeners ∧
         (SInv .current s → lt2 o'.pc.meas o.pc.meas)) := by
  induction Step.of_sstep hs with
  | stay q hact hq hl hn =>
    exact ⟨_, _, hact, .inr ⟨_, _, rfl, rfl, fun hi =>
      ownerCont_meas hq (oFact_matches (hi.parked hact hl).2.1) (.inl hn)⟩⟩
  | pay q hact hq hl hn =>
    exact ⟨_, _, hact, .inr ⟨_, _, rfl, rfl, fun hi =>
      ownerCont_meas hq (oFact_matches (hi.parked hact hl).2.1) (.inr ⟨_, _, hn⟩)⟩⟩
  | panic q hact hq hl hn =>
    exact ⟨_, _, hact, .inr ⟨_, _, rfl, rfl, fun hi => (ownerCont_out hi hact hq hl hn).elim⟩⟩
  | takeReady hact hpc => exact ⟨_, _, hact, .inr ⟨_, _, rfl, rfl, fun _ => hpc ▸ .inl (Nat.lt_succ_self 11)⟩⟩
  | readParams hact hpc => exact ⟨_, _, hact, .inr ⟨_, _, rfl, rfl, fun _ => hpc ▸ .inl (Nat.lt_succ_self 10)⟩⟩
  | readHeight hact hpc => exact ⟨_, _, hact, .inr ⟨_, _, rfl, rfl, fun _ => hpc ▸ .inl (Nat.lt_succ_self 9)⟩⟩
  | finish _ hact | finishBk _ hact | timerFire hact | takeFail hact => exact ⟨_, _, hact, .inl ⟨rfl, _, rfl⟩⟩
  | env h => induction h <;> cases ha
  | crash | arriveNew | arrive | payEnd | serveOwner | faultOwner => cases ha

theorem ownerStep_active {c : Cfg} {s s' : SState} {a : SAct} {outs : List Out} (ha : a.isOwnerStep = true)
    (hs : sstep c .current s a = some (s', outs)) : ∃ e o, s.active = some (e, o) :=
  let ⟨e, o, h, _⟩ := owner_step_meas c ha hs
  ⟨e, o, h⟩

/-- No livelock: from every reachable state, every step of the owner task — consuming a reply, a
    `select!` branch, reading the parameters or the height — ends the lifecycle (all its HTLCs
    answered; the K-finding panic needs a read fault and is excluded by the invariant) or
    strictly decreases the well-founded measure `ownerMeas`: a lifecycle takes finitely many steps. -/
theorem c06_owner_steps_decrease (c : Cfg) (s s' : SState) (a : SAct) (outs : List Out) (hr : Reach c s)
    (ha : a.isOwnerStep = true) (hs : sstep c .current s a = some (s', outs)) :
    s'.active = none ∨ lt2 (ownerMeas s') (ownerMeas s) := by
  obtain ⟨e, o, hact, ⟨hn, _⟩ | ⟨e', o', ha', _, hlt⟩⟩ := owner_step_meas c ha hs
  · exact .inl hn
  · exact .inr (by rw [ownerMeas_eq ha', ownerMeas_eq hact]; exact hlt hr.inv)

/-- non-vacuity: in the demo run the reply to the listdatastore request is an owner step from a
    reachable state, and it takes the measure from (30, 0) down to (12, 0) -/
example : ∃ s s' outs, Reach demoCfg s ∧
    sstep demoCfg .current s (.deliver .owner .dsList) = some (s', outs) ∧
    ownerMeas s = (30, 0) ∧ ownerMeas s' = (12, 0) ∧ lt2 (ownerMeas s') (ownerMeas s) := by
  exact ⟨_, _, _, reach_demo 2 rfl, rfl, rfl, rfl, .inl (by decide : 12 < 30)⟩

/-- the measure is well-founded: there is no infinite descending chain of owner steps -/
theorem c06_measure_wf : WellFounded (fun s' s : SState => lt2 (ownerMeas s') (ownerMeas s)) :=
  InvImage.wf ownerMeas lt2_wf

/-- Pinned tree: adding up the amounts of two HTLCs overflows and panics (defect fixed by F7). -/
theorem c06_pinned_overflow_panics :
    ∃ acts s, srun demoCfg .pinned SState.init acts = some s ∧ s.panicked = true := by
  refine ⟨[.arrive ⟨0, 1000000, true⟩ (2 ^ 63) 1400 300 (2 ^ 63), .arrive ⟨0, 1000000, true⟩ (2 ^ 63) 1400 300 (2 ^ 63)], _, rfl, ?_⟩
  decide

/-- K4 on the model: a read fault on the restart path makes the owner panic; its HTLCs stay unanswered. -/
theorem c06_todo_counterexample :
    ∃ acts s, srun demoCfg .current SState.init acts = some s ∧ s.panicked = true ∧
      (∃ e o, s.active = some (e, o) ∧ o.pc = .panicked ∧ e.listeners ≠ []) := by
  refine ⟨demoActs.take 11 ++ [.crash, .arrive ⟨0, 1000000, true⟩ 1006000 1400 300 1006000,
      .serve .owner .dsList, .deliver .owner .dsList, .fault .owner (.prov .listPending) .readErr,
      .deliver .owner (.prov .listPending)], _, rfl, rfl, _, _, rfl, rfl, by decide⟩

end Tramp
