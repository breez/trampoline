/-
C13 — Non-trampoline HTLCs pass through untouched and without side effects.

Statement: an HTLC that is a plain forward, or carries no (or unusable) trampoline metadata, is
answered with `continue` without waiting on any external event; the plugin makes no RPC call,
stores nothing and retains no state for it. If the plugin rewrites the onion payload at all, the
rewrite only removes the payment-metadata record and preserves every other record byte-for-byte
and in order.

Here: the pure part (what the immediate answer is, and what a rewritten payload looks like), for
every request and every `parse`. "No state, no RPC" is a statement about the transition system and
is `c13_no_effect` in Props/C13Sys (the arrival of a non-trampoline request is a no-op there).
-/
import Tramp.Proofs.Classify

namespace Tramp

/-- A request that is not classified as trampoline is answered at once, and — except for the
    self-route-hint rejection that C10 prescribes — the answer is `continue`. -/
theorem c13_immediate (parse : Bytes → Option InvoiceView) (allow : Bool) (req : Req) :
    (∃ i f, classify parse allow req = .tramp i f) ∨
    (∃ p, classify parse allow req = .cont p) ∨
    (classify parse allow req = .failTNF ∧
      ∃ i, extractWith true parse req = .info i ∧ i.inv.selfLastHop = true ∧ allow = false) := by
  rcases classify_cases parse allow req with hd | ⟨i, _, hex, ⟨hc, hs, ha⟩ | ⟨f, hc, _⟩⟩
  · rw [hd]; exact .inr (.inl (defaultResponse_cont _))
  · exact .inr (.inr ⟨hc, i, hex, hs, ha⟩)
  · exact .inl ⟨i, f, hc⟩

/-- A plain forward is always `continue` (whatever else the request contains). -/
theorem c13_forward (parse : Bytes → Option InvoiceView) (allow : Bool) (req : Req)
    (h : req.onion.hasScid = true) : ∃ p, classify parse allow req = .cont p := by
  unfold classify classifyWith
  rw [if_pos h]
  exact defaultResponse_cont _

/-- If the payload is rewritten at all, the new payload is the encoding of the input records with
    exactly the FIRST payment-metadata record removed: every other record, before and after it, is
    kept in order. -/
theorem c13_rewrite_records (parse : Bytes → Option InvoiceView) (allow : Bool) (req : Req) (p : Bytes)
    (h : classify parse allow req = .cont (some p)) :
    ∃ pre e post, req.onion.payload = pre ++ e :: post ∧ e.typ = TLV_PAYMENT_METADATA ∧
      (∀ x ∈ pre, x.typ ≠ TLV_PAYMENT_METADATA) ∧ p = toBytes (pre ++ post) := by
  rcases classify_cases parse allow req with hd | ⟨i, _, _, ⟨hc, _⟩ | ⟨f, hc, _⟩⟩
  · rw [hd] at h; exact defaultResponse_some _ p h
  · rw [hc] at h; cases h
  · rw [hc] at h; cases h

/-- …and on a valid BOLT TLV stream this is byte-for-byte: the output is the input with exactly the
    byte range of that one record cut out. -/
theorem c13_rewrite_bytes (bs : Bytes) (es pre post : List Entry) (e : Entry)
    (hdec : strictDecode bs = some es) (hes : es = pre ++ e :: post) :
    bs = toBytes pre ++ encodeEntry e ++ toBytes post ∧
    toBytes (pre ++ post) = toBytes pre ++ toBytes post := by
  have ⟨hb, _⟩ := strictDecode_spec hdec
  rw [hb, hes, toBytes_append, toBytes, List.append_assoc]
  exact ⟨rfl, toBytes_append _ _⟩

/-! Non-vacuity -/
example : classify (fun _ => none) true
    { onion := { payload := [⟨2, [1]⟩, ⟨16, [0x05, 0xfd, 0x80, 0xe9, 0x01, 0x41]⟩, ⟨8, [7]⟩], hasScid := true,
                 forwardMsat := some 9, totalMsat := none },
      htlc := { amountMsat := 9, cltvExpiry := 0, cltvRel := 0, hash := [1] } }
    = .cont (some [2, 1, 1, 8, 1, 7]) := by decide

end Tramp
