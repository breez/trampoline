/-
C11 — Incomplete multi-part sets fail at the MPP timeout: not before, not much later.

Statement: a set of HTLCs that never reaches the required total, for a payment with no outgoing
attempt pending or completed, is failed back with a temporary trampoline failure once the configured
MPP timeout has elapsed since the plugin began waiting for it, and no outgoing payment is started
for it. For a set with no earlier attempt this never happens before the timeout unless a policy
rejection occurs, and a restart never grants more than one further timeout period.

"Began waiting" = the owner entered the `select!` (after the stored state was read and, on the
restart path, the fate of the interrupted attempt is known; DESIGN.md §9). Partial: that tokio fires
a due timer promptly is the runtime's (E8) — in the model the timer step is ENABLED from the
deadline on and suite `system` observes it firing at exactly the deadline under virtual time.
-/
import Tramp.Props.Sys
import Tramp.Proofs.SysPcInv

namespace Tramp

/-- once the clock has reached the deadline the timer step is enabled; taking it answers ALL held
    HTLCs with temporary_trampoline_failure and ends the lifecycle (which therefore never pays) -/
theorem c11_timeout_fails (c : Cfg) (s : SState) (e : PEntry) (o : Owner) (d : Nat)
    (hact : s.active = some (e, o)) (hpc : o.pc = .waitHtlcs d) (hdue : s.mono ≥ d) :
    sstep c .current s .timerFire = some ({ s with active := none }, e.listeners.map (fun i => Out.resp i (.fail .ttf))) :=
  (Step.timerFire hact hpc hdue).sstep_eq

/-- …and not before: the timer step is not enabled while the clock is below the deadline -/
theorem c11_not_before (c : Cfg) (s : SState) (e : PEntry) (o : Owner) (d : Nat)
    (hact : s.active = some (e, o)) (hpc : o.pc = .waitHtlcs d) (hearly : s.mono < d) :
    sstep c .current s .timerFire = none := by
  simp [sstep, hact, hpc, Nat.not_le.mpr hearly]

/-- with no earlier attempt on record (state absent or Free) and a non-zero timeout the deadline is
    exactly one MPP timeout after the moment the stored state was read -/
theorem c11_fresh_deadline (c : Cfg) (s : SState) (q : SReq) (g : Nat) (hm : c.mppTimeout ≠ 0) :
    ownerCont c .current s .fetch q (.listed none) = .stay (.waitHtlcs (s.mono + c.mppTimeout)) ∧
    ownerCont c .current s .fetch q (.listed (some (.free, g))) = .stay (.waitHtlcs (s.mono + c.mppTimeout)) := by
  have h : enterWait s c.mppTimeout = .stay (.waitHtlcs (s.mono + c.mppTimeout)) := if_neg hm
  exact ⟨h, h⟩

/-- a restart grants what is left of ONE timeout counted from the interrupted attempt's start —
    never more than one further timeout period, and nothing at all once the attempt is older than that -/
theorem c11_restart_budget (c : Cfg) (s : SState) (aid g t g' : Nat) (q : SReq) :
    (c.mppTimeout - (s.wall - t) ≤ c.mppTimeout) ∧
    (c.mppTimeout - (s.wall - t) = 0 →
      ownerCont c .current s (.rFailS aid g t) q (.written g') = .finish (.fail .ttf)) ∧
    (c.mppTimeout - (s.wall - t) ≠ 0 →
      ownerCont c .current s (.rFailS aid g t) q (.written g') =
        .stay (.waitHtlcs (s.mono + (c.mppTimeout - (s.wall - t))))) := by
  have hk : ownerCont c .current s (.rFailS aid g t) q (.written g') = enterWait s (c.mppTimeout - (s.wall - t)) := rfl
  exact ⟨Nat.sub_le .., fun h => hk.trans (if_pos h), fun h => hk.trans (if_neg h)⟩

/-- the deadline of a waiting lifecycle is never more than one MPP timeout ahead of the clock -/
def DeadlineOk (c : Cfg) (s : SState) : Prop :=
  ∀ e o d, s.active = some (e, o) → o.pc = .waitHtlcs d → d ≤ s.mono + c.mppTimeout

/-- In EVERY state the plugin can reach — whatever was scheduled, crashed or made to fail, read
    faults included — the deadline of a waiting lifecycle is at most one MPP timeout ahead of the
    clock: a restart, a retry or a late HTLC never re-arms or extends the timer
    (`dl_step`: inductive under every action). -/
theorem c11_deadline_bound (c : Cfg) (acts : List SAct) (s : SState)
    (hr : srun c .current SState.init acts = some s) : DeadlineOk c s := by
  intro e o d ha hpc
  have := (dlPred c).reachable acts s hr e o ha
  rw [hpc] at this; exact this

/-- …hence once one MPP timeout has passed on the clock the timer step is enabled, and taking it
    answers every held HTLC with temporary_trampoline_failure (C06: "no later than one MPP timeout
    after the plugin has read the payment's stored state"; promptness of tokio's timer is E8). -/
theorem c11_due_after_one_timeout (c : Cfg) (acts : List SAct) (s : SState) (e : PEntry) (o : Owner) (d dt : Nat)
    (hr : srun c .current SState.init acts = some s) (hact : s.active = some (e, o)) (hpc : o.pc = .waitHtlcs d)
    (hdt : c.mppTimeout ≤ dt) :
    sstep c .current { s with mono := s.mono + dt } .timerFire =
      some ({ s with mono := s.mono + dt, active := none }, e.listeners.map (fun i => Out.resp i (.fail .ttf))) := by
  have hb := c11_deadline_bound c acts s hr e o d hact hpc
  exact (Step.timerFire (s := { s with mono := s.mono + dt }) hact hpc (by show d ≤ s.mono + dt; omega)).sstep_eq

/-- non-vacuity: a partial HTLC whose stored state was read is waiting, with its deadline 60 s ahead -/
example : ∃ s e o, srun demoCfg .current SState.init
    [.arrive ⟨1, 1000000, true⟩ 500000 1300 300 1006000, .serve .owner .dsList, .deliver .owner .dsList] = some s ∧
    s.active = some (e, o) ∧ o.pc = .waitHtlcs 60 := by
  refine ⟨_, _, _, rfl, rfl, rfl⟩

/-- Where a temporary_trampoline_failure can come from, apart from the timer (`c11_timeout_fails`) and
    a conflicting HTLC pushed into the fail channel (`takeFail`): the owner's continuations give it
    only at once when no time is left — timeout 0 at `fetch`, or a stale interrupted attempt at the
    end of the restart path — or after an outgoing attempt failed for good. Never spontaneously, and
    never while collecting with time left. -/
theorem c11_ttf_sources (c : Cfg) (s : SState) (pc : OPc) (q : SReq) (r : SReply) :
    (ownerCont c .current s pc q r = .finish (.fail .ttf) →
      (pc = .fetch ∧ c.mppTimeout = 0) ∨ (∃ aid g t, pc = .rFailS aid g t ∧ c.mppTimeout - (s.wall - t) = 0)) ∧
    (∀ b, ownerCont c .current s pc q r = .finishBk (.fail .ttf) b → ∃ aid g p, pc = .paying aid g p) := by
  have hm := ownerCont_move c .current s pc q r
  refine ⟨fun hn => ?_, fun b hn => ?_⟩ <;> rw [hn] at hm
  · cases hm with
    | timeUp _ he =>
      -- with the time left a variable, each way of entering the wait shows what it was computed from
      generalize 0 = tl at he ⊢
      cases he with
      | fresh | free => exact .inl ⟨rfl, rfl⟩
      | restart aid g t => exact .inr ⟨aid, g, t, rfl, rfl⟩
  · cases hm with
    | payErr aid g p => exact ⟨aid, g, p, rfl⟩

end Tramp
