/-
C14 — Payments for different hashes are isolated from each other.

Statement: progress and outcome of a payment for one hash never depend on another hash: a stalled,
slow or failing payment (or a stuck RPC issued for it) neither delays nor alters the responses for
HTLCs of a different hash. Amounts, expiries and stored state are never pooled across hashes.

In the model isolation is structural — one component per hash, nothing shared but the clocks, the
height and the configuration — and the theorems below make that precise. Partial: that the CODE has
this structure (no lock held across an RPC, per-hash datastore keys) is what suite `system` checks by
behaviour: a quarter of the schedules run with a second payment hash frozen after some of its RPCs
(DESIGN.md §5.4), and the trace of the first hash must still be accepted by the single-hash model.
-/
import Tramp.Proofs.Product

namespace Tramp

/-- an action of hash `h` changes no other component, and its outputs are tagged with `h` only -/
theorem c14_frame (c : Cfg) (v : SVariant) (g g' : GState) (h : Nat) (a : SAct) (outs : List (Nat × Out))
    (hs : gstep c v g (.comp h a) = some (g', outs)) :
    (∀ k, k ≠ h → g'.comps k = g.comps k) ∧ (∀ o ∈ outs, o.1 = h) := by
  rw [gstep_comp, Option.map_eq_some_iff] at hs
  obtain ⟨r, _, hr⟩ := hs
  cases hr
  refine ⟨fun k hk => setComp_other hk, fun o ho => ?_⟩
  obtain ⟨x, _, rfl⟩ := List.mem_map.mp ho
  rfl

/-- enabledness, outputs and effect of an action of hash `h` depend on the component of `h` only -/
theorem c14_own_state_only (c : Cfg) (v : SVariant) (g1 g2 : GState) (h : Nat) (a : SAct)
    (heq : g1.comps h = g2.comps h) :
    (gstep c v g1 (.comp h a)).map (fun r => (r.1.comps h, r.2)) =
    (gstep c v g2 (.comp h a)).map (fun r => (r.1.comps h, r.2)) := by
  simp only [gstep_comp, heq, Option.map_map, Function.comp_def, setComp_same]

/-- no action of the schedule belongs to hash `hA` -/
def avoids (hA : Nat) : List GAct → Prop
  | [] => True
  | .comp h _ :: as => h ≠ hA ∧ avoids hA as
  | _ :: as => avoids hA as

theorem avoids_cons {hA : Nat} {a : GAct} {as : List GAct} :
    avoids hA (a :: as) ↔ avoids hA [a] ∧ avoids hA as := by
  cases a <;> simp [avoids]

/-- two global states that agree everywhere except on hash `hA` -/
def agreeOff (hA : Nat) (g1 g2 : GState) : Prop := ∀ k, k ≠ hA → g1.comps k = g2.comps k

/-- two results agree: both refuse, or both succeed with the same outputs and states that agree off `hA` -/
def agreeRes (hA : Nat) : Option (GState × List (Nat × Out)) → Option (GState × List (Nat × Out)) → Prop
  | some (g1, o1), some (g2, o2) => agreeOff hA g1 g2 ∧ o1 = o2
  | none, none => True
  | _, _ => False

/-- agreeing results are continued to agreeing results by continuations that agree on agreeing states -/
theorem agreeRes_bind {hA : Nat} {r1 r2 : Option (GState × List (Nat × Out))} (h : agreeRes hA r1 r2)
    {f1 f2 : GState × List (Nat × Out) → Option (GState × List (Nat × Out))}
    (hf : ∀ g1 g2 o, agreeOff hA g1 g2 → agreeRes hA (f1 (g1, o)) (f2 (g2, o))) : agreeRes hA (r1.bind f1) (r2.bind f2) :=
  match r1, r2, h with
  | some (g1, o), some (g2, _), ⟨hag, rfl⟩ => hf g1 g2 o hag
  | none, none, _ => trivial

theorem gstep_agree (c : Cfg) (v : SVariant) (hA : Nat) (g1 g2 : GState) (a : GAct) (hav : avoids hA [a])
    (hag : agreeOff hA g1 g2) : agreeRes hA (gstep c v g1 a) (gstep c v g2 a) := by
  cases hf : sharedStep a with
  | some f =>
    rw [gstep_shared c v g1 hf, gstep_shared c v g2 hf]
    exact ⟨fun k hk => congrArg f (hag k hk), rfl⟩
  | none =>
    cases a with
    | comp h x =>
      rw [gstep_comp, gstep_comp, hag h hav.1]
      cases sstep c v (g2.comps h) x with
      | none => trivial
      | some r => exact ⟨fun k hk => by simp only [setComp, hag k hk], rfl⟩
    | _ => cases hf

/-- C14: whatever state hash `hA` is frozen in (stalled at any RPC, waiting on its timer, failing…),
    every schedule of the OTHER hashes and of the shared actions is enabled exactly as if `hA` did not
    exist, produces exactly the same responses and pay requests, and leaves the other components in
    exactly the same states. -/
theorem c14_frozen (c : Cfg) (v : SVariant) (hA : Nat) (acts : List GAct) (g1 g2 : GState)
    (hav : avoids hA acts) (hag : agreeOff hA g1 g2) : agreeRes hA (grun c v g1 acts) (grun c v g2 acts) := by
  induction acts generalizing g1 g2 with
  | nil => exact ⟨hag, rfl⟩
  | cons a as ih =>
    obtain ⟨hav1, hav2⟩ := avoids_cons.mp hav
    rw [grun_cons, grun_cons]
    refine agreeRes_bind (gstep_agree c v hA g1 g2 a hav1 hag) fun g1' g2' o hag' => ?_
    exact agreeRes_bind (ih g1' g2' hav2 hag') fun _ _ _ hag'' => ⟨hag'', rfl⟩

/-- datastore keys, amounts, expiries: every per-payment datum lives inside its component -/
theorem c14_no_pooling (c : Cfg) (v : SVariant) (g g' : GState) (h k : Nat) (a : SAct) (outs : List (Nat × Out))
    (hs : gstep c v g (.comp h a) = some (g', outs)) (hk : k ≠ h) :
    (g'.comps k).ds = (g.comps k).ds ∧ (g'.comps k).parts = (g.comps k).parts ∧ (g'.comps k).active = (g.comps k).active := by
  rw [(c14_frame c v g g' h a outs hs).1 k hk]
  exact ⟨rfl, rfl, rfl⟩

end Tramp
