/-
C08 — Write-ahead: the durable record never understates the outgoing payment.

Statement: at every instant, if any outgoing part for a payment hash is pending or complete on the
node, the durable record for that hash says in-flight or succeeded, never free or absent. In
particular the in-flight marker is durably written before the pay request is issued, a free marker
is written only when nothing is pending or complete, and a succeeded record always holds a preimage
of that hash.

Every reachable state is a possible crash image (crash is also an explicit action); two lifecycles
of one hash overlap through the bookkeepers; write faults are refused writes and writes applied but
reported as failed.
-/
import Tramp.Props.Sys

namespace Tramp

/-- (W) at every instant: something pending or complete ⇒ the stored state is Pending or Succeeded -/
theorem c08_write_ahead (c : Cfg) (s : SState) (hr : Reach c s) (hlive : ¬ partsQuiet s.parts) :
    ∃ v g, s.ds = some (v, g) ∧ v ≠ .free :=
  hr.inv.wal (fun hq => hlive hq.1)

/-- the same while a pay command runs (before it has created any part) -/
theorem c08_marker_while_paying (c : Cfg) (s : SState) (hr : Reach c s) (hrun : s.payRunning = true) :
    ∃ v g, s.ds = some (v, g) ∧ v ≠ .free :=
  hr.inv.wal (fun hq => nomatch hrun.symm.trans hq.2)

/-- the in-flight marker is durable BEFORE the pay request is issued -/
theorem c08_pending_before_pay (c : Cfg) (s s' : SState) (a : SAct) (outs : List Out) (b : Nat) (am : Option Nat)
    (mf md : Nat) (hr : Reach c s) (hs : sstep c .current s a = some (s', outs)) (ho : Out.pay b am mf md ∈ outs) :
    ∃ v g, s.ds = some (v, g) ∧ v ≠ .free := by
  obtain ⟨e, o, aid, g, hact, hpc, hb, ham, hq, hpm, hrun⟩ := (hr.emit a hs).pay ho
  exact hpm.2.2

/-- a free (or absent) record exists only at instants when nothing is pending or complete and no pay
    command runs — in particular right after a Free write landed -/
theorem c08_free_only_when_quiet (c : Cfg) (s : SState) (hr : Reach c s)
    (hfree : s.ds = none ∨ ∃ g, s.ds = some (.free, g)) : partsQuiet s.parts ∧ s.payRunning = false :=
  ds_quiet_of_free hr.inv hfree

/-- (S) a succeeded record holds the preimage of a part of this hash that is complete -/
theorem c08_succeeded_preimage (c : Cfg) (s : SState) (hr : Reach c s) (pre g : Nat)
    (hds : s.ds = some (.succeeded pre, g)) : HasComplete s.parts pre :=
  hr.inv.succ pre g hds

/-- Non-vacuity: a reachable state with a pending part (and the marker in place). -/
example : ∃ s, srun demoCfg .current SState.init (demoActs.take 11) = some s ∧ ¬ partsQuiet s.parts ∧
    s.ds = some (.pending 1 0, 0) := ⟨_, rfl, by decide, rfl⟩

end Tramp
