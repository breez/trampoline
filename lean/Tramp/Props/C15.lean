/-
C15 — Waiting on a payment reports 'none' only if nothing is pending or complete.

Statement: when the plugin waits for the outgoing payment of a hash, it returns a preimage only if
some part completed with it, and reports 'no payment' only if at that moment no part for that hash
is pending or complete, whatever the order in which parts resolve relative to its queries.
Part-level failure codes do not abort the wait while other parts are still pending.

Quantification: every initial part table (any number of parts, any statuses, distinct ids), every
finite sequence of actions of `pstep` — part resolutions, the node serving a query (reply computed
from the table at that instant), delivery of a served reply to the plugin — in any order, with any
delays between serving and delivery, including read faults. No part is created during the wait
(`payRunning = false`; in the full system this is invariant (P)).
-/
import Tramp.Proofs.Provider

namespace Tramp

/-- the invariant holds whenever a direct `wait_payment` call has run on any table, for any schedule;
    a read error proves that a read fault occurred -/
theorem wait_run_inv {ps : List Part} (hnd : PartsNodup ps) {acts : List PAct} {s : PSys}
    (hrun : prun Variant.current (PSys.initWait Variant.current ps) acts = some s) :
    PInv (noReadFault acts = false) s :=
  -- at the start no pay command runs, no reply is parked, and `wait_payment` stands at its first listing
  have h0 : PInv (noReadFault acts = false) (PSys.initWait Variant.current ps) :=
    ⟨hnd, fun hr => absurd hr Bool.false_ne_true, fun _ hx => absurd hx List.not_mem_nil, trivial⟩
  prun_inv _ h0 hrun id

/-- a preimage is returned only if some part is complete with exactly that preimage -/
theorem c15_some (ps : List Part) (hnd : PartsNodup ps) (acts : List PAct) (s : PSys) (x : Nat)
    (hrun : prun Variant.current (PSys.initWait Variant.current ps) acts = some s)
    (hret : s.pc = .retWait (.some x)) : HasComplete s.parts x :=
  pinv_at (wait_run_inv hnd hrun) hret

/-- 'no payment' is returned only at an instant when no part of the hash is pending or complete —
    for every order of resolutions relative to the two listings and the waits -/
theorem c15_none (ps : List Part) (hnd : PartsNodup ps) (acts : List PAct) (s : PSys)
    (hrun : prun Variant.current (PSys.initWait Variant.current ps) acts = some s)
    (hret : s.pc = .retWait .none) : partsQuiet s.parts :=
  pinv_at (wait_run_inv hnd hrun) hret

/-- an error is returned only if an RPC really failed -/
theorem c15_err_only_on_fault (ps : List Part) (hnd : PartsNodup ps) (acts : List PAct) (s : PSys)
    (hrun : prun Variant.current (PSys.initWait Variant.current ps) acts = some s)
    (hnf : noReadFault acts = true) : s.pc ≠ .retWait .err :=
  fun hret => Bool.eq_false_iff.mp (pinv_at (wait_run_inv hnd hrun) hret) hnf

/-- a part-level failure code (202/203/204/208/209) for one part leaves the wait running for the
    others -/
theorem c15_codes (rem : List Nat) (id : Nat) (h : (rem.erase id).isEmpty = false) :
    wDeliver (.waiting rem) (.waitPart id) .waitCode = .waiting (rem.erase id) :=
  if_neg (Bool.eq_false_iff.mp h)

/-- Pinned tree (defect D5, concurrent listings): completed is served while the part is pending,
    the part completes, pending is served — `None` although a part is complete. -/
theorem c15_pinned_counterexample :
    ∃ acts s, prun Variant.pinned (PSys.initWait Variant.pinned [⟨1, .pending⟩]) acts = some s ∧
      s.pc = .retWait .none ∧ HasComplete s.parts 77 := by
  refine ⟨[.serve .listComplete, .resolve 1 (.complete 77), .serve .listPending,
           .deliver .listComplete, .deliver .listPending], _, rfl, rfl, ?_⟩
  exact ⟨⟨1, .complete 77⟩, by decide, rfl⟩

/-! Non-vacuity: on the current tree the same schedule returns the preimage; and `none` is reachable. -/
example : ∃ s, prun Variant.current (PSys.initWait Variant.current [⟨1, .pending⟩])
    [.serve .listPending, .deliver .listPending, .serve .listComplete, .resolve 1 (.complete 77),
     .deliver .listComplete, .serve (.waitPart 1), .deliver (.waitPart 1)] = some s ∧
    s.pc = .retWait (.some 77) := ⟨_, rfl, rfl⟩
example : ∃ s, prun Variant.current (PSys.initWait Variant.current [⟨1, .pending⟩, ⟨2, .failed⟩])
    [.serve .listPending, .deliver .listPending, .serve .listComplete, .deliver .listComplete,
     .resolve 1 .failed, .serve (.waitPart 1), .deliver (.waitPart 1)] = some s ∧
    s.pc = .retWait .none := ⟨_, rfl, rfl⟩
example : PartsNodup [⟨1, .pending⟩, ⟨2, .failed⟩] := by unfold PartsNodup; decide

end Tramp
