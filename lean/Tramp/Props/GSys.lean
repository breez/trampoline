/- Reachability for the whole plugin, the counterpart of Props/Sys for the product M7': `GReach`, and every component of a
   reachable state of the whole plugin is reachable on its own (`grun_reach`, `GReach.comp`), so that what is proved
   of one payment hash holds of every hash at once. -/
import Tramp.Props.Sys
import Tramp.Proofs.Product

namespace Tramp

def ginit : GState := { comps := fun _ => SState.init }

def GAct.writeFaultOnly : GAct → Prop
  | .comp _ a => a.writeFaultOnly
  | _ => True

theorem projAct_writeFaultOnly {a : GAct} (hf : a.writeFaultOnly) (h : Nat) : (projAct h a).writeFaultOnly := by
  cases a with
  | comp k sa =>
    show (if k = h then sa else .tickMono 0).writeFaultOnly
    split
    · exact hf
    · trivial
  | _ => trivial

theorem projAct_ne_crash {a : GAct} (h1 : a ≠ .crash) (h2 : ∀ k, a ≠ .comp k .crash) {h : Nat} : projAct h a ≠ .crash := by
  cases a with
  | comp k sa =>
    show (if k = h then sa else .tickMono 0) ≠ .crash
    split
    · exact fun hc => h2 k (hc ▸ rfl)
    · nofun
  | crash => exact absurd rfl h1
  | _ => nofun

theorem gstep_reach {c : Cfg} {g g' : GState} {a : GAct} {outs : List (Nat × Out)} (hf : a.writeFaultOnly)
    (h0 : ∀ h, Reach c (g.comps h)) (hs : gstep c .current g a = some (g', outs)) (h : Nat) : Reach c (g'.comps h) :=
  have ⟨_, hst, _⟩ := gstep_proj hs h
  (h0 h).step _ (projAct_writeFaultOnly hf h) hst

theorem grun_reach (c : Cfg) (acts : List GAct) (g g' : GState) (outs : List (Nat × Out))
    (hf : ∀ a ∈ acts, a.writeFaultOnly) (h0 : ∀ h, Reach c (g.comps h))
    (hr : grun c .current g acts = some (g', outs)) : ∀ h, Reach c (g'.comps h) :=
  grun_induction (P := fun g => ∀ h, Reach c (g.comps h)) (fun _ _ _ _ h0 hf hs => gstep_reach hf h0 hs)
    h0 hf hr

def GReach (c : Cfg) (g : GState) : Prop :=
  ∃ gacts gouts, (∀ a ∈ gacts, a.writeFaultOnly) ∧ grun c .current ginit gacts = some (g, gouts)

theorem GReach.comp {c : Cfg} {g : GState} (hg : GReach c g) (h : Nat) : Reach c (g.comps h) := by
  obtain ⟨gacts, gouts, hf, hr⟩ := hg
  exact grun_reach c gacts ginit g gouts hf (fun _ => ⟨[], (by intro a ha; cases ha), rfl⟩) hr h

end Tramp
