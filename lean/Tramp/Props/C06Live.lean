/-
C06, deadlock freedom — "no request can make the handler … deadlock or stay unanswered, provided the
node's RPC keeps answering".

From EVERY reachable state in which HTLCs are held there is a finite continuation, made only of things
the environment is always able to do (the node answers an outstanding request truthfully, a pending
part resolves, the pay command ends, time passes) and of the plugin's own steps — no crash, no fault —
after which every held HTLC has been answered (`c06_can_always_answer`).

It rests on `owner_waits`: in a reachable state a live lifecycle waits for the scheduler (a reply to
consume, an internal step to take), for the node to answer a request it can answer now, or for one of
three things only: the MPP timer or a message, the pay command, parts that are all pending. That in
turn rests on three inductive facts: what the owner waits for can always be provided (`LInv`: a pay
command it waits on is running or has answered, every part it waits on exists), `SInv`, and no
reachable state has panicked. A lifecycle step strictly decreases a well-founded measure
(`c06_owner_steps_decrease`), so finitely many rounds answer everybody.
What this does not give is that the real scheduler and the real node *take* these steps: that is
fairness (E8), assumed.
-/
import Tramp.Props.C06
import Tramp.Proofs.SysLive

namespace Tramp

theorem Reach.linv {c : Cfg} {s : SState} (h : Reach c s) : LInv s := by
  obtain ⟨acts, hf, hr⟩ := h
  exact linv_run c acts SState.init s linv_init (sinv_init _) hf hr

/-- from a reachable state an owner step answers everybody with one response and ends the lifecycle, or the
    lifecycle goes on with the same listeners and a smaller measure -/
theorem owner_step_result {c : Cfg} {s s' : SState} {a : SAct} {outs : List Out} {e : PEntry} {o : Owner}
    (hr : Reach c s) (hact : s.active = some (e, o)) (ha : a.isOwnerStep = true)
    (hs : sstep c .current s a = some (s', outs)) :
    (s'.active = none ∧ ∃ rr, outs = respAll e rr) ∨
    (∃ e' o', s'.active = some (e', o') ∧ e'.listeners = e.listeners ∧ lt2 o'.pc.meas o.pc.meas) := by
  obtain ⟨e0, o0, h0, hres⟩ := owner_step_meas c ha hs
  cases hact.symm.trans h0
  exact hres.imp_right fun ⟨e', o', ha', hl, hlt⟩ => ⟨e', o', ha', hl, hlt hr.inv⟩

theorem Reach.waits {c : Cfg} {s : SState} {e : PEntry} {o : Owner} (hr : Reach c s) (hact : s.active = some (e, o)) :
    Awaits s o :=
  owner_waits hr.inv hr.linv (c06_no_panic c s hr) hact

/-- the actions of a cooperative continuation: the plugin takes its own steps, the node answers a request
    of the owner truthfully, a part resolves, the pay command ends, time passes; no fault, no crash, no arrival -/
def SAct.isCooperative (a : SAct) : Bool :=
  a.isOwnerStep || match a with
    | .serve .owner _ | .resolve _ _ | .payEnd _ | .tickMono _ => true
    | _ => false

theorem cooperative_sound {a : SAct} (h : a.isCooperative = true) : a.writeFaultOnly ∧ a ≠ .crash := by
  refine ⟨?_, fun hc => by rw [hc] at h; cases h⟩
  cases a with
  | fault => cases h
  | _ => trivial

/-- a cooperative continuation after which every held HTLC is answered, or the lifecycle is strictly further on -/
def Progress (c : Cfg) (s : SState) (e : PEntry) (o : Owner) : Prop :=
  ∃ acts s1 outs, (∀ a ∈ acts, a.isCooperative = true) ∧ srunO c .current s acts = some (s1, outs) ∧
    ((s1.active = none ∧ ∀ i ∈ e.listeners, ∃ rr, Out.resp i rr ∈ outs) ∨
     (∃ e1 o1, s1.active = some (e1, o1) ∧ e1.listeners = e.listeners ∧ lt2 o1.pc.meas o.pc.meas))

theorem progress_ownerStep {c : Cfg} {s s1 : SState} {e : PEntry} {o : Owner} {a : SAct} {outs : List Out}
    (hr : Reach c s) (hact : s.active = some (e, o)) (ha : a.isOwnerStep = true)
    (hs : Step c s a s1 outs) : Progress c s e o := by
  refine ⟨[a], s1, outs, List.forall_mem_singleton.mpr (Bool.or_eq_true_iff.mpr (.inl ha)), srunO_last hs, ?_⟩
  exact (owner_step_result hr hact ha hs.sstep_eq).imp_left
    fun ⟨hn, rr, ho⟩ => ⟨hn, fun i hi => ⟨rr, ho ▸ mem_respAll.mpr ⟨rfl, hi⟩⟩⟩

theorem progress_deliver {c : Cfg} {s : SState} {e : PEntry} {o : Owner} {q : SReq} {r : SReply} (hr : Reach c s)
    (hact : s.active = some (e, o)) (hq : q ∈ o.pc.outstanding .current) (hl : lookupS o.served q = some r) :
    Progress c s e o :=
  progress_ownerStep hr hact rfl (Step.of_sstep (sstep_deliver_owner c hact hq hl))

/-- a silent step of the environment that leaves the owner where it is can be put in front -/
theorem progress_prepend {c : Cfg} {s s0 : SState} {e e0 : PEntry} {o o0 : Owner} {a : SAct} (hr : Reach c s)
    (ha : a.isCooperative = true) (hs : Step c s a s0 []) (h : Reach c s0 → Progress c s0 e0 o0)
    (hl : e0.listeners = e.listeners) (hpc : o0.pc = o.pc) : Progress c s e o := by
  obtain ⟨acts, s1, outs, hca, hrun, hres⟩ := h (hr.step a (cooperative_sound ha).1 hs.sstep_eq)
  refine ⟨a :: acts, s1, outs, List.forall_mem_cons.mpr ⟨ha, hca⟩, srunO_silent hs hrun, ?_⟩
  rw [hl, hpc] at hres; exact hres

/-- the node answers an outstanding request (anything but `pay`), the owner consumes the reply -/
theorem progress_serve {c : Cfg} {s : SState} {e : PEntry} {o : Owner} {q : SReq} (hr : Reach c s)
    (hact : s.active = some (e, o)) (hq : q ∈ o.pc.outstanding .current) (hnp : q ≠ .prov .pay)
    (hnew : lookupS o.served q = none) (hres : (nodeServe s q).isSome) : Progress c s e o := by
  obtain ⟨ds, as, r, hres⟩ := nodeServe_some hres
  obtain ⟨r', hr'⟩ := lookupS_snoc o.served q r
  exact progress_prepend hr rfl (.serveOwner q hact hq hnew hnp hres) (fun hr0 => progress_deliver hr0 rfl hq hr') rfl rfl

theorem progress_any (c : Cfg) (s : SState) (e : PEntry) (o : Owner) (hr : Reach c s) (hact : s.active = some (e, o)) :
    Progress c s e o := by
  cases hr.waits hact with
  | reply hq hl => exact progress_deliver hr hact hq hl
  | read h =>
    rcases h with hpc | ⟨mf, exp, hpc⟩
    · exact progress_ownerStep hr hact rfl (.readParams hact hpc)
    · exact progress_ownerStep hr hact rfl (.readHeight hact hpc)
  | node hq hnp hnew hres => exact progress_serve hr hact hq hnp hnew hres
  | @timer d hpc =>
    -- time passes until the timer is due, then it fires
    have hd : d ≤ s.mono + (d - s.mono) := by omega
    exact progress_prepend hr rfl (.env (.tickMono (d - s.mono)))
      (fun hr0 => progress_ownerStep hr0 hact rfl (.timerFire hact hpc hd)) rfl rfl
  | pay hpc hrun hnew =>
    -- the pay command ends (here: FAILED), the wrapper consumes its reply
    obtain ⟨r', hr'⟩ := lookupS_snoc o.served (.prov .pay) (.prov (.payFailed false))
    exact progress_prepend hr rfl (.payEnd (.payFailed false) hact hpc hrun hnew rfl)
      (fun hr0 => progress_deliver hr0 rfl (pay_outstanding .current hpc) hr') rfl rfl
  | @parts rem hw hne hall =>
    obtain ⟨id, hid⟩ := List.exists_mem_of_ne_nil _ hne
    have hq := waitPart_outstanding .current hw hid
    cases hnew : lookupS o.served (.prov (.waitPart id)) with
    | some r => exact progress_deliver hr hact hq hnew
    | none =>
      -- the part resolves (fails), then the node answers the waitsendpay
      obtain ⟨p, hfp, _⟩ := hall id hid
      have hst : PStatus.failed ≠ .pending := PStatus.noConfusion
      exact progress_prepend hr rfl (.env (.resolve id .failed hst)) (fun hr0 =>
        progress_serve hr0 hact hq nofun hnew (nodeServe_waitPart.mpr (findPart_resolve_final hfp hst))) rfl rfl

/-- From every reachable state in which HTLCs are held there is a finite cooperative continuation after
    which the lifecycle is over and every held HTLC has been answered. -/
theorem can_always_answer (c : Cfg) : ∀ (m : Nat × Nat) (s : SState) (e : PEntry) (o : Owner), o.pc.meas = m → Reach c s →
    s.active = some (e, o) →
    ∃ acts s' outs, (∀ a ∈ acts, a.isCooperative = true) ∧ srunO c .current s acts = some (s', outs) ∧
      s'.active = none ∧ ∀ i ∈ e.listeners, ∃ rr, Out.resp i rr ∈ outs := by
  intro m
  induction m using lt2_wf.induction with
  | _ m ih =>
    intro s e o hm hr hact
    obtain ⟨acts, s1, outs, hc, hrun, hres⟩ := progress_any c s e o hr hact
    rcases hres with ⟨hn, hall⟩ | ⟨e1, o1, ha1, hl1, hlt⟩
    · exact ⟨acts, s1, outs, hc, hrun, hn, hall⟩
    · have hr1 : Reach c s1 := hr.extend acts (fun a ha => (cooperative_sound (hc a ha)).1) (srun_of_srunO hrun)
      obtain ⟨acts2, s2, outs2, hc2, hrun2, hn2, hall2⟩ := ih o1.pc.meas (hm ▸ hlt) s1 e1 o1 rfl hr1 ha1
      refine ⟨acts ++ acts2, s2, outs ++ outs2, List.forall_mem_append.mpr ⟨hc, hc2⟩,
        srunO_append hrun hrun2, hn2, fun i hi => ?_⟩
      obtain ⟨rr, hrr⟩ := hall2 i (hl1 ▸ hi)
      exact ⟨rr, List.mem_append_right _ hrr⟩

/-- **Deadlock freedom.** From every reachable state in which HTLCs are held there is a finite
    continuation — the node answers outstanding requests truthfully, pending parts resolve, the pay
    command ends, time passes, the plugin takes its own steps; no crash, no fault — after which the
    lifecycle is over and EVERY held HTLC has been answered. -/
theorem c06_can_always_answer (c : Cfg) (s : SState) (e : PEntry) (o : Owner) (hr : Reach c s)
    (hact : s.active = some (e, o)) :
    ∃ acts s' outs, WriteFaultsOnly acts ∧ (∀ a ∈ acts, a ≠ .crash) ∧ srunO c .current s acts = some (s', outs) ∧
      s'.active = none ∧ ∀ i ∈ e.listeners, ∃ rr, Out.resp i rr ∈ outs :=
  let ⟨acts, s', outs, hc, h⟩ := can_always_answer c _ s e o rfl hr hact
  ⟨acts, s', outs, fun a ha => (cooperative_sound (hc a ha)).1, fun a ha => (cooperative_sound (hc a ha)).2, h⟩

/-- non-vacuity: the state after a partial HTLC arrived is reachable and has a held HTLC -/
example : ∃ s e o, Reach demoCfg s ∧ s.active = some (e, o) ∧ e.listeners.length = 1 := by
  exact ⟨_, _, _, ⟨[.arrive ⟨0, 1000000, true⟩ 500000 1400 300 1006000], List.forall_mem_singleton.mpr trivial, rfl⟩,
    rfl, rfl⟩

end Tramp
