/-
C17 — Wire protocol: any chunking decodes each request once; one response per id.

Statement: however the node's byte stream is split across reads, each JSON-RPC message is decoded
exactly once and in order; every request for a hook or method the plugin registered receives
exactly one reply carrying that request's id, even when handlers finish out of order. Every message
the plugin writes (replies and log notifications, possibly concurrently) is a complete JSON
document followed by a blank line, never interleaved with another.

Proved over M8: framing for ALL byte streams and ALL partitions into chunks (splits inside the
separator or inside a multi-byte UTF-8 sequence included: validation happens per complete message,
after the split); the dispatcher for ALL arrival/completion orders. Partial: that each write of a
whole encoded message is atomic (tokio Mutex around FramedWrite) and that serde_json never emits a
raw newline are runtime/library facts (E8, E9), observed by suite `wire` on the real Builder.
-/
import Tramp.Proofs.Wire

namespace Tramp

/-- Feeding the stream in ANY partition into read chunks yields the same messages, in the same
    order, and the same residual buffer, as decoding the whole stream at once. -/
theorem c17_chunking (residual : Bytes) (chunks : List Bytes) (h : decodeOne residual = none) :
    feedChunks residual chunks = decodeAll (residual ++ chunks.flatten) := by
  induction chunks generalizing residual with
  | nil => rw [feedChunks, List.flatten_nil, List.append_nil, decodeAll_of_none h]
  | cons c cs ih =>
    simp only [feedChunks, feed, List.flatten_cons]
    rw [ih _ (decodeAll_residual (residual ++ c)), ← List.append_assoc, decodeAll_append (residual ++ c)]

/-- starting from the empty buffer (what FramedRead starts with) -/
theorem c17_chunking_from_start (chunks : List Bytes) :
    feedChunks [] chunks = decodeAll chunks.flatten :=
  c17_chunking [] chunks rfl

/-- Each message is decoded exactly once, in order, nothing is left over: what the encoder wrote for
    a list of newline-free messages decodes to exactly that list. -/
theorem c17_roundtrip (ms : List Bytes) (h : ∀ m ∈ ms, NoNL m) :
    decodeAll (ms.map encodeMsg).flatten = (ms, []) := by
  induction ms with
  | nil => rfl
  | cons m ms ih =>
    rw [List.map_cons, List.flatten_cons, decodeAll_of_some (decodeOne_encoded _ (h m (List.mem_cons_self ..))),
      ih fun x hx => h x (List.mem_cons_of_mem _ hx)]

/-- writer: whatever the order in which whole messages are appended to the output, the node can
    split the output back into exactly those messages -/
theorem c17_writer (written : List Bytes) (h : ∀ m ∈ written, NoNL m) (chunks : List Bytes)
    (hc : chunks.flatten = (written.map encodeMsg).flatten) :
    feedChunks [] chunks = (written, []) := by
  rw [c17_chunking_from_start, hc, c17_roundtrip written h]

/-- For every arrival order and every completion order: the calls still running and the replies
    written are exactly the requests received, no call is answered twice, and (by construction of
    `dstep`) each reply carries the id of its own request. When nothing is in flight any more, the
    replies are exactly the received requests. -/
theorem c17_dispatch (acts : List DAct) (s : DSt) (h : drun ⟨[], []⟩ acts = some s) :
    ((s.inflight ++ s.replies).map (·.tok)).Nodup ∧
    (∀ r, r ∈ recvdOf acts ↔ (r ∈ s.inflight ∨ r ∈ s.replies)) ∧
    (s.inflight = [] → ∀ r, r ∈ recvdOf acts ↔ r ∈ s.replies) := by
  obtain ⟨hp, hnd⟩ := drun_perm (s := ⟨[], []⟩) List.nodup_nil h
  have hmem : ∀ r, r ∈ recvdOf acts ↔ (r ∈ s.inflight ∨ r ∈ s.replies) :=
    fun r => hp.mem_iff.symm.trans List.mem_append
  refine ⟨hnd, hmem, fun hemp r => ?_⟩
  rw [hmem r, hemp]; simp

/-! Non-vacuity -/
example : feedChunks [] [[123, 125, 10], [10, 123], [125, 10, 10, 91]] = ([[123, 125], [123, 125]], [91]) := by decide
example : ∃ s, drun ⟨[], []⟩ [.recv ⟨0, 7⟩, .recv ⟨1, 7⟩, .recv ⟨2, 9⟩, .complete 2, .complete 0, .complete 1] = some s ∧
    s.replies = [⟨2, 9⟩, ⟨0, 7⟩, ⟨1, 7⟩] ∧ s.inflight = [] := ⟨_, rfl, rfl, rfl⟩

end Tramp
