/-
C04 — The outgoing payment always expires safely before the incoming HTLCs funding it.

Statement: for every pay request, the maximum route delay granted is at most (lowest absolute expiry
among the incoming HTLCs funding it, i.e. those held when the payment was initiated − chain height
known at that time − configured safety delta), floored at zero, and never above the policy's CLTV
delta. An HTLC whose relative expiry is below the policy delta and that arrives before its set is
fully funded causes the set to be rejected rather than paid.

The value travels through three program points: `readParams` records `exp := entry.cltv` (the running
minimum of the expiries of everything held, `c04_params`), `readHeight` computes
`maxDelay cfg exp height` with the height register of that moment (`c04_height`), and the pay request
carries exactly the value stored in the owner's program counter (`c04_carried`).
-/
import Tramp.Props.Sys
import Tramp.Proofs.SysPcInv
import Tramp.Proofs.SysExpiry

namespace Tramp

/-- the arithmetic: never above the policy delta, never above expiry − height − safety delta (floored at 0) -/
theorem c04_bound (c : Cfg) (exp height : Nat) :
    maxDelay c exp height ≤ c.policyDelta ∧ maxDelay c exp height ≤ exp - height - c.cltvDelta ∧
    maxDelay c exp height ≤ 65535 :=
  maxDelay_le c exp height

/-- initiation: the expiry recorded is a lower bound of the expiry of EVERY HTLC held at that moment -/
theorem c04_params (c : Cfg) (s s' : SState) (outs : List Out) (hr : Reach c s)
    (hs : sstep c .current s .readParams = some (s', outs)) :
    ∃ e o, s.active = some (e, o) ∧ s'.active = some (e, { pc := .gotParams (e.received - e.info.amount) e.cltv, served := [] }) ∧
      ∀ i ∈ e.listeners, e.cltv ≤ i.expiry := by
  cases Step.of_sstep hs with
  | env he => cases he
  | readParams hact => exact ⟨_, _, hact, rfl, (hr.einv _ _ hact).cltvLe⟩

/-- the delay is computed from that expiry and the height register at that time -/
theorem c04_height (c : Cfg) (s s' : SState) (outs : List Out)
    (hs : sstep c .current s .readHeight = some (s', outs)) :
    ∃ e o mf exp, s.active = some (e, o) ∧ o.pc = .gotParams mf exp ∧
      s'.active = some (e, { pc := .addS s.nextAid s.wall mf (maxDelay c exp s.height), served := [] }) := by
  cases Step.of_sstep hs with
  | env he => cases he
  | readHeight hact hpc => exact ⟨_, _, _, _, hact, hpc, rfl⟩

/-- the pay request carries exactly the budget and delay stored when the attempt was recorded -/
theorem c04_carried (c : Cfg) (s s' : SState) (a : SAct) (outs : List Out) (b : Nat) (am : Option Nat)
    (mf md : Nat) (hr : Reach c s) (hs : sstep c .current s a = some (s', outs)) (ho : Out.pay b am mf md ∈ outs) :
    ∃ e o aid g, s.active = some (e, o) ∧ o.pc = .addA aid g mf md := by
  obtain ⟨e, o, aid, g, hact, hpc, _⟩ := (hr.emit a hs).pay ho
  exact ⟨e, o, aid, g, hact, hpc⟩

/-- …and the two write acknowledgements in between do not touch them -/
theorem c04_unchanged (c : Cfg) (s : SState) (aid t mf md g : Nat) (q : SReq) :
    ownerCont c .current s (.addS aid t mf md) q (.written g) = .stay (.addA aid g mf md) ∧
    ownerCont c .current s (.addA aid g mf md) q (.written 0) = .pay (.paying aid g .paying) mf md := ⟨rfl, rfl⟩

/-- End to end for the policy half of the bound: from EVERY reachable state, whatever was scheduled,
    crashed or made to fail before, a pay request carries a delay of at most the policy's CLTV delta
    (and fits 16 bits). The invariant behind it (`delayPred`, inductive under every action): the delay
    stored with an attempt is a value of `maxDelay`. -/
theorem c04_pay_delay_bounded (c : Cfg) (s s' : SState) (a : SAct) (outs : List Out) (b : Nat) (am : Option Nat)
    (mf md : Nat) (hr : Reach c s) (hs : sstep c .current s a = some (s', outs)) (ho : Out.pay b am mf md ∈ outs) :
    md ≤ c.policyDelta ∧ md ≤ 65535 := by
  obtain ⟨e, o, aid, g, hact, hpc⟩ := c04_carried c s s' a outs b am mf md hr hs ho
  obtain ⟨acts, _, hrun⟩ := hr
  have hinv := (delayPred c).reachable acts s hrun e o hact
  rw [hpc] at hinv
  exact hinv

/-- **C04 end to end.** From EVERY reachable state, a pay request's delay `md` is `maxDelay` of
    (i) an expiry `exp` that is a lower bound of the expiries of the first `k` HTLCs of the entry —
    the HTLCs held when the payment was initiated: listeners are only ever appended
    (`PEntry.add_listeners`), and `k` was the number held at that moment (`exp_step`, case `readParams`) —
    and (ii) a height `h` the register had at that time (`h ≤` the height it has now). Hence
    `md ≤ exp − h − safety delta` (floored at zero) and `md ≤` the policy delta, whatever arrived,
    was mined, crashed or failed in between. -/
theorem c04_end_to_end (c : Cfg) (s s' : SState) (a : SAct) (outs : List Out) (b : Nat) (am : Option Nat)
    (mf md : Nat) (hr : Reach c s) (hs : sstep c .current s a = some (s', outs)) (ho : Out.pay b am mf md ∈ outs) :
    ∃ e o exp h k, s.active = some (e, o) ∧ k ≤ e.listeners.length ∧ (∀ i ∈ e.listeners.take k, exp ≤ i.expiry) ∧
      h ≤ s.height ∧ md = maxDelay c exp h ∧ md ≤ exp - h - c.cltvDelta ∧ md ≤ c.policyDelta := by
  obtain ⟨e, o, aid, g, hact, hpc⟩ := c04_carried c s s' a outs b am mf md hr hs ho
  obtain ⟨acts, _, hrun⟩ := hr
  have hinv := exp_reachable c acts s hrun e o hact
  rw [hpc] at hinv
  obtain ⟨exp, h, k, hmd, hle, hk, hall⟩ := hinv
  have hb := c04_bound c exp h
  exact ⟨e, o, exp, h, k, hact, hk, hall, hle, hmd, by rw [hmd]; exact hb.2.1, by rw [hmd]; exact hb.1⟩

/-- non-vacuity: in the demo run the acknowledgement of the attempt record issues the pay request,
    with delay 144 = min(1400 − 0 − 34, 65535, 144) -/
example : ∃ s s' outs, Reach demoCfg s ∧
    sstep demoCfg .current s (.deliver .owner (.dsWriteAttempt 1 .mustCreate)) = some (s', outs) ∧
    Out.pay 0 none 6000 144 ∈ outs := by
  exact ⟨_, _, _, reach_demo 9 rfl, rfl, by decide⟩

/-- an HTLC with a relative expiry below the policy delta that arrives before readiness was signalled
    makes the entry rejected for good (no readiness, hence no pay: C07) -/
theorem c04_low_expiry_rejects (c : Cfg) (e : PEntry) (info : SInfo) (relExp : Int) (total : Nat) (i : Inv)
    (hlow : relExp < (c.policyDelta : Int)) (hnr : e.readySent = false) :
    ((e.checks c info relExp total).add c i).isFailReq = true ∧ ((e.checks c info relExp total).add c i).readySent = false :=
  PEntry.add_rejected c i ⟨by simp [PEntry.checks_isFailReq, hlow], (PEntry.checks_readySent ..).trans hnr⟩

end Tramp
