/-
C13 (system clause) — a non-trampoline HTLC makes no RPC call, stores nothing and retains no state.
`handleHtlc` is the top of `handle_htlc`: when the classification is not "trampoline" the global
state is returned unchanged, no output (no request, no response of a held HTLC) is produced, and the
answer is immediate.
-/
import Tramp.Props.C14
import Tramp.Props.C13
import Tramp.Props.C10

namespace Tramp

theorem c13_no_effect (c : Cfg) (v : SVariant) (parse : Bytes → Option InvoiceView) (allow : Bool) (key : Bytes → Nat)
    (b11 : Bytes → Nat) (g : GState) (req : Req) (h : ∀ i f, classify parse allow req ≠ .tramp i f) :
    ∃ im, handleHtlc c v parse allow key b11 g req = (some (g, []), some im) := by
  unfold handleHtlc
  cases hc : classify parse allow req with
  | cont | failTNF => exact ⟨_, rfl⟩
  | tramp i f => exact absurd hc (h i f)

/-- and a trampoline request touches exactly one component: the one of the invoice's (= the HTLC's,
    C10) payment hash -/
theorem c13_tramp_one_component (c : Cfg) (v : SVariant) (parse : Bytes → Option InvoiceView) (allow : Bool)
    (key : Bytes → Nat) (b11 : Bytes → Nat) (g g' : GState) (req : Req) (i : Info) (f : Nat) (outs : List (Nat × Out))
    (hc : classify parse allow req = .tramp i f)
    (hs : (handleHtlc c v parse allow key b11 g req).1 = some (g', outs)) :
    ∀ k, k ≠ key req.htlc.hash → g'.comps k = g.comps k := by
  unfold handleHtlc at hs
  rw [hc] at hs
  rw [← (c10_hash_eq parse allow req i f hc).1]
  exact (c14_frame _ _ _ _ _ _ _ hs).1

end Tramp
