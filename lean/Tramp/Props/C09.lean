/-
C09 — No crash point or failed write leaves a payment hash permanently unpayable.

Statement: after a crash at any point, or any single failed or lost datastore write, a later fully
funded set of HTLCs for the same invoice is still either paid and settled, or settled from the
recorded preimage. No payment hash becomes permanently failing because of the state an interrupted
run left behind.

Proved for EVERY image an interrupted run can leave — in fact for every image whatsoever: any stored
state (absent / Free / Pending with any attempt id, time and generation / Succeeded), any set of
attempt records (the record of the pending attempt may be missing), any part table without pending
parts (the environment has quiesced), any clocks — stronger than "reachable", which is why lost
writes are covered too. The plugin starts empty (it was restarted). A fully funded HTLC arrives and
the environment cooperates (every RPC answered truthfully, the recipient accepts): the HTLC is
settled at the first attempt, except when the image says Pending for an attempt older than the MPP
timeout with no completed part — then the first attempt is failed with temporary_trampoline_failure
and leaves the state Free (`c09_stale_pending_frees`), and the retry settles (`c09_free_settles`).
`c09_pinned_wedge`: on the pinned tree (attempt record written with must-replace in `mark_failed`)
the image "Pending, attempt record missing" is failed with temporary_node_failure and stays as it is.
-/
import Tramp.Proofs.SysRun

namespace Tramp

/-- the probe's HTLC passes the three checks -/
structure ProbeOk (c : Cfg) (info : SInfo) (amount : Nat) (relExp : Int) (total : Nat) : Prop where
  rel   : ¬ relExp < (c.policyDelta : Int)
  tot   : feeOk c total info.amount = true
  fund  : feeOk c amount info.amount = true
  small : amount < U64

/-- the entry the probe creates: one listener, readiness signalled, nothing rejected -/
def probeEntry (c : Cfg) (info : SInfo) (i : Inv) (relExp : Int) (total : Nat) : PEntry :=
  ((PEntry.new info).checks c info relExp total).add c i

def probeE (info : SInfo) (id amount expiry : Nat) : PEntry :=
  { info := info, listeners := [⟨id, amount, expiry⟩], isReady := true, isFailReq := false, readyBuf := true,
    failBuf := none, received := amount, cltv := min expiry 4294967295, readySent := true }

theorem probeEntry_shape (c : Cfg) (info : SInfo) (id amount expiry : Nat) (relExp : Int) (total : Nat)
    (h : ProbeOk c info amount relExp total) :
    probeEntry c info ⟨id, amount, expiry⟩ relExp total = probeE info id amount expiry := by
  have hrel : decide (relExp < (c.policyDelta : Int)) = false := by simpa using h.rel
  have hsat : satAdd 0 amount = amount := by
    unfold satAdd; have := h.small; unfold U64 at *; split <;> omega
  unfold probeE probeEntry PEntry.checks PEntry.failIf PEntry.add PEntry.canReady PEntry.push PEntry.markReady PEntry.new
  simp [hrel, h.tot, hsat, h.fund]

/-- a part created and then completed with `x` justifies the pay reply COMPLETE `x` (E3) -/
theorem payReplyOk_completed (ps : List Part) (pid x : Nat) :
    payReplyOk (resolvePart (ps ++ [⟨pid, .pending⟩]) pid (.complete x)) (.payComplete x) = true := by
  simp [payReplyOk, resolvePart]

/-- what a restarted plugin finds: any durable state, no plugin state, nothing in flight -/
structure Image (s : SState) : Prop where
  noActive  : s.active = none
  noBks     : s.bks = []
  notPaying : s.payRunning = false
  settled   : pendingIds s.parts = []                 -- no part is still pending
  freshAid  : ∀ a ∈ s.attempts, a ≠ s.nextAid         -- E6: attempt ids are fresh
  freshRec  : ∀ aid t g, s.ds = some (.pending aid t, g) → aid ≠ s.nextAid

/-- `mark_failed` may add the record of the stored attempt: the next attempt id is still fresh -/
theorem Image.fresh_marked {s : SState} (him : Image s) {aid t g : Nat} (hds : s.ds = some (.pending aid t, g)) :
    ∀ a ∈ (if s.attempts.contains aid then s.attempts else s.attempts ++ [aid]), a ≠ s.nextAid := by
  intro a ha
  split at ha
  · exact him.freshAid a ha
  · rcases List.mem_append.mp ha with ha | ha
    · exact him.freshAid a ha
    · rw [List.mem_singleton.mp ha]; exact him.freshRec aid t g hds

/-- the HTLC arrives and the record is fetched: the whole cooperative schedule when the record says Succeeded, the
    head of every other one -/
def probeSucceeded (info : SInfo) (amount expiry : Nat) (relExp : Int) (total : Nat) : List SAct :=
  [.arrive info amount expiry relExp total, .serve .owner .dsList, .deliver .owner .dsList]

/-- Image "Succeeded pre": the set is settled from the recorded preimage, without paying. -/
theorem c09_succeeded_settles (c : Cfg) (s : SState) (him : Image s) (pre g : Nat)
    (hds : s.ds = some (.succeeded pre, g)) (info : SInfo) (amount expiry : Nat) (relExp : Int) (total : Nat) :
    ∃ s', srunO c .current s (probeSucceeded info amount expiry relExp total) =
      some (s', (probeEntry c info ⟨s.nextInv, amount, expiry⟩ relExp total).listeners.map (fun i => Out.resp i (.resolve pre))) :=
  ⟨_, Eq.trans (
    srunO_silent (.arriveNew _ _ _ _ _ him.noActive) <|
    srunO_silent (.serveOwner _ rfl (.head _) rfl nofun rfl) <|
    srunO_last (.finish _ rfl (.head _) lookupS_single
      (show ownerCont c .current _ .fetch .dsList (.listed s.ds) = .finish (.resolve pre) by rw [hds]; rfl))) rfl⟩

/-- the image `s` once the probe's HTLC has come in: its entry, the owner at `pc` holding the replies `served` -/
def probeAt (s : SState) (info : SInfo) (amount expiry : Nat) (pc : OPc) (served : List (SReq × SReply)) : SState :=
  { s with active := some (probeE info s.nextInv amount expiry, { pc := pc, served := served }), nextInv := s.nextInv + 1 }

theorem Image.arrive {s : SState} (him : Image s) {c : Cfg} {info : SInfo} {amount : Nat} (expiry : Nat) {relExp : Int}
    {total : Nat} (hok : ProbeOk c info amount relExp total) :
    Step c s (.arrive info amount expiry relExp total) (probeAt s info amount expiry .fetch []) [] := by
  have h := Step.arriveNew (c := c) info amount expiry relExp total him.noActive
  rwa [← probeEntry, probeEntry_shape c info s.nextInv amount expiry relExp total hok] at h

/-- the restarted plugin takes in the probe's HTLC and reads the record; `hn` says where the record
    sends the owner -/
theorem Image.fetch {s : SState} (him : Image s) {c : Cfg} {info : SInfo} {amount : Nat} (expiry : Nat) {relExp : Int}
    {total : Nat} (hok : ProbeOk c info amount relExp total) {pc' : OPc}
    (hn : ownerCont c .current s .fetch .dsList (.listed s.ds) = .stay pc') :
    srunO c .current s (probeSucceeded info amount expiry relExp total) = some (probeAt s info amount expiry pc' [], []) :=
  Eq.trans (
    srunO_silent (him.arrive expiry hok) <|
    srunO_silent (.serveOwner _ rfl (.head _) rfl nofun rfl) <|
    srunO_last (.stay _ rfl (.head _) lookupS_single hn)) rfl

/-- the tail of every successful probe: from the `select!` with readiness signalled to settlement -/
def probeTail (s : SState) (pid x : Nat) : List SAct :=
  [ .takeReady, .readParams, .readHeight,
    .serve .owner (.dsWriteState (.pending s.nextAid s.wall) .createOrReplace),
    .deliver .owner (.dsWriteState (.pending s.nextAid s.wall) .createOrReplace),
    .serve .owner (.dsWriteAttempt s.nextAid .mustCreate), .deliver .owner (.dsWriteAttempt s.nextAid .mustCreate),
    .create pid, .resolve pid (.complete x), .payEnd (.payComplete x), .deliver .owner (.prov .pay) ]

theorem c09_from_wait (c : Cfg) (s : SState) (info : SInfo) (amount expiry d pid x : Nat)
    (hfa : ∀ a ∈ s.attempts, a ≠ s.nextAid) (hpid : findPart s.parts pid = none) :
    ∃ s', srunO c .current (probeAt s info amount expiry (.waitHtlcs d) []) (probeTail s pid x) =
      some (s', [Out.pay info.bolt11 (if info.invHasAmount then none else some info.amount) (amount - info.amount)
                   (maxDelay c (min expiry 4294967295) s.height),
                 Out.resp ⟨s.nextInv, amount, expiry⟩ (.resolve x)]) := by
  obtain ⟨g', hw, _⟩ := dsWrite_createOrReplace s.ds (DsVal.pending s.nextAid s.wall)
  have hwa : attemptWrite s.attempts s.nextAid .mustCreate = some (s.attempts ++ [s.nextAid]) :=
    if_neg fun h => hfa _ (List.contains_iff_mem.mp h) rfl
  exact ⟨_, Eq.trans (
    srunO_silent (.takeReady rfl rfl rfl) <|
    srunO_silent (.readParams rfl rfl) <|
    srunO_silent (.readHeight rfl rfl) <|
    srunO_silent (.serveOwner _ rfl (.head _) rfl nofun (nodeServe_writeState hw)) <|
    srunO_silent (.stay _ rfl (.head _) lookupS_single rfl) <|
    srunO_silent (.serveOwner _ rfl (.head _) rfl nofun (nodeServe_writeAttempt hwa)) <|
    srunO_emit (.pay _ rfl (.head _) lookupS_single rfl) <|
    srunO_silent (.env (.create pid rfl hpid)) <|
    srunO_silent (.env (.resolve pid _ nofun)) <|
    srunO_silent (.payEnd _ rfl rfl rfl rfl (payReplyOk_completed _ _ _)) <|
    srunO_last (.finishBk _ rfl (.head _) lookupS_single rfl)) rfl⟩

/-- the cooperative schedule from a Free/absent record: collect, record the attempt, pay, the
    recipient accepts -/
def probeFree (c : Cfg) (s : SState) (info : SInfo) (amount expiry : Nat) (relExp : Int) (total pid x : Nat) : List SAct :=
  [ .arrive info amount expiry relExp total, .serve .owner .dsList, .deliver .owner .dsList,
    .takeReady, .readParams, .readHeight,
    .serve .owner (.dsWriteState (.pending s.nextAid s.wall) .createOrReplace),
    .deliver .owner (.dsWriteState (.pending s.nextAid s.wall) .createOrReplace),
    .serve .owner (.dsWriteAttempt s.nextAid .mustCreate), .deliver .owner (.dsWriteAttempt s.nextAid .mustCreate),
    .create pid, .resolve pid (.complete x), .payEnd (.payComplete x), .deliver .owner (.prov .pay) ]

/-- Image "Free or absent" (this is also what every failed attempt leaves behind): the set is paid
    and settled with the recipient's preimage. -/
theorem c09_free_settles (c : Cfg) (s : SState) (him : Image s) (hfree : s.ds = none ∨ ∃ g, s.ds = some (.free, g))
    (hmpp : c.mppTimeout ≠ 0) (info : SInfo) (amount expiry : Nat) (relExp : Int) (total pid x : Nat)
    (hok : ProbeOk c info amount relExp total) (hpid : findPart s.parts pid = none) :
    ∃ s', srunO c .current s (probeFree c s info amount expiry relExp total pid x) =
      some (s', [Out.pay info.bolt11 (if info.invHasAmount then none else some info.amount) (amount - info.amount)
                   (maxDelay c (min expiry 4294967295) s.height),
                 Out.resp ⟨s.nextInv, amount, expiry⟩ (.resolve x)]) := by
  have hn : ownerCont c .current s .fetch .dsList (.listed s.ds) = .stay (.waitHtlcs (s.mono + c.mppTimeout)) := by
    rcases hfree with h | ⟨g, h⟩ <;> rw [h] <;> exact if_neg hmpp
  obtain ⟨s', hs'⟩ := c09_from_wait c s info amount expiry (s.mono + c.mppTimeout) pid x him.freshAid hpid
  exact ⟨s', srunO_append (him.fetch expiry hok hn) hs'⟩

/-- the listing phase of the restart path over an image whose record says Pending -/
def probePendingListing (info : SInfo) (amount expiry : Nat) (relExp : Int) (total : Nat) : List SAct :=
  [ .arrive info amount expiry relExp total, .serve .owner .dsList, .deliver .owner .dsList,
    .serve .owner (.prov .listPending), .deliver .owner (.prov .listPending), .serve .owner (.prov .listComplete) ]

theorem c09_pending_listing {c : Cfg} {s : SState} (him : Image s) {aid t g : Nat}
    (hds : s.ds = some (.pending aid t, g)) {info : SInfo} {amount : Nat} (expiry : Nat) {relExp : Int} {total : Nat}
    (hok : ProbeOk c info amount relExp total) :
    srunO c .current s (probePendingListing info amount expiry relExp total) =
      some (probeAt s info amount expiry (.rWait aid g t (.seqComplete []))
              [(.prov .listComplete, .prov (.completePres (completePres s.parts)))], []) :=
  Eq.trans (srunO_append
    (him.fetch expiry hok (pc' := .rWait aid g t .seqPending) (by rw [hds]; rfl)) <|
    srunO_silent (.serveOwner _ rfl (.head _) rfl nofun
      (show nodeServe _ (.prov .listPending) = some (_, .prov (.pendingIds [])) by rw [← him.settled]; rfl)) <|
    srunO_silent (.stay _ rfl (.head _) lookupS_single rfl) <|
    srunO_last (.serveOwner _ rfl (.head _) rfl nofun rfl)) rfl

/-- Image "Pending", and a part of the interrupted attempt has completed: the set is settled with
    that part's preimage — nothing is paid. -/
theorem c09_pending_completed_settles (c : Cfg) (s : SState) (him : Image s) (aid t g : Nat)
    (hds : s.ds = some (.pending aid t, g)) (info : SInfo) (amount expiry : Nat) (relExp : Int) (total : Nat)
    (hok : ProbeOk c info amount relExp total) (x : Nat) (rest : List Nat) (hcp : completePres s.parts = x :: rest) :
    ∃ s', srunO c .current s (probePendingListing info amount expiry relExp total ++ [.deliver .owner (.prov .listComplete)]) =
      some (s', [Out.resp ⟨s.nextInv, amount, expiry⟩ (.resolve x)]) :=
  ⟨_, Eq.trans (srunO_append (c09_pending_listing him hds expiry hok) <|
    srunO_last (.finishBk _ rfl (.head _) lookupS_single
      (show ownerCont c .current _ (.rWait aid g t (.seqComplete [])) (.prov .listComplete)
          (.prov (.completePres (completePres s.parts))) = .finishBk (.resolve x) (.succS aid x) by rw [hcp]; rfl))) rfl⟩

/-- the `mark_failed` phase when no part of the interrupted attempt is live -/
def probeMarkFailed (aid g : Nat) : List SAct :=
  [ .deliver .owner (.prov .listComplete),
    .serve .owner (.dsWriteAttempt aid .createOrReplace), .deliver .owner (.dsWriteAttempt aid .createOrReplace),
    .serve .owner (.dsWriteState .free (.mustReplace (some g))) ]

theorem c09_pending_mark_failed {c : Cfg} {s : SState} (him : Image s) {aid t g : Nat}
    (hds : s.ds = some (.pending aid t, g)) {info : SInfo} {amount : Nat} (expiry : Nat) {relExp : Int} {total : Nat}
    (hok : ProbeOk c info amount relExp total) (hcp : completePres s.parts = []) :
    srunO c .current s (probePendingListing info amount expiry relExp total ++ probeMarkFailed aid g) =
      some (probeAt { s with ds := some (.free, g + 1),
                             attempts := (if s.attempts.contains aid then s.attempts else s.attempts ++ [aid]) }
              info amount expiry (.rFailS aid g t) [(.dsWriteState .free (.mustReplace (some g)), .written (g + 1))], []) := by
  have hw : dsWrite s.ds (.mustReplace (some g)) DsVal.free = (some (.free, g + 1), some (g + 1)) := by
    simp [hds, dsWrite]
  exact Eq.trans (srunO_append (c09_pending_listing him hds expiry hok) <|
    srunO_silent (.stay _ rfl (.head _) lookupS_single
      (show ownerCont c .current _ (.rWait aid g t (.seqComplete [])) (.prov .listComplete)
          (.prov (.completePres (completePres s.parts))) = .stay (.rFailA aid g t) by rw [hcp]; rfl)) <|
    srunO_silent (.serveOwner _ rfl (.head _) rfl nofun (nodeServe_writeAttempt rfl)) <|
    srunO_silent (.stay _ rfl (.head _) lookupS_single rfl) <|
    srunO_last (.serveOwner _ rfl (.head _) rfl nofun (nodeServe_writeState hw))) rfl

/-- Image "Pending", nothing of the interrupted attempt is live, and the attempt is older than the
    MPP timeout: this set is failed with temporary_trampoline_failure — and what it leaves behind is
    again an image, now with the state Free: `c09_free_settles` applies to the retry. -/
theorem c09_stale_pending_frees (c : Cfg) (s : SState) (him : Image s) (aid t g : Nat)
    (hds : s.ds = some (.pending aid t, g)) (info : SInfo) (amount expiry : Nat) (relExp : Int) (total : Nat)
    (hok : ProbeOk c info amount relExp total) (hcp : completePres s.parts = [])
    (hstale : c.mppTimeout - (s.wall - t) = 0) :
    ∃ s', srunO c .current s (probePendingListing info amount expiry relExp total ++ probeMarkFailed aid g ++
        [.deliver .owner (.dsWriteState .free (.mustReplace (some g)))]) =
      some (s', [Out.resp ⟨s.nextInv, amount, expiry⟩ (.fail .ttf)]) ∧
      Image s' ∧ s'.ds = some (.free, g + 1) :=
  ⟨_, Eq.trans (srunO_append (c09_pending_mark_failed him hds expiry hok hcp)
      (srunO_last (.finish _ rfl (.head _) lookupS_single (if_pos hstale)))) rfl,
    ⟨rfl, him.noBks, him.notPaying, him.settled, him.fresh_marked hds, fun _ _ _ hd => nomatch hd⟩, rfl⟩

/-- Image "Pending", nothing of the interrupted attempt is live, and time is left: the record is
    freed and the set is paid and settled within the same lifecycle. -/
theorem c09_pending_pays (c : Cfg) (s : SState) (him : Image s) (aid t g : Nat)
    (hds : s.ds = some (.pending aid t, g)) (info : SInfo) (amount expiry : Nat) (relExp : Int) (total pid x : Nat)
    (hok : ProbeOk c info amount relExp total) (hcp : completePres s.parts = [])
    (hleft : c.mppTimeout - (s.wall - t) ≠ 0) (hpid : findPart s.parts pid = none) :
    ∃ s', srunO c .current s (probePendingListing info amount expiry relExp total ++ probeMarkFailed aid g ++
        [.deliver .owner (.dsWriteState .free (.mustReplace (some g)))] ++ probeTail s pid x) =
      some (s', [Out.pay info.bolt11 (if info.invHasAmount then none else some info.amount) (amount - info.amount)
                   (maxDelay c (min expiry 4294967295) s.height),
                 Out.resp ⟨s.nextInv, amount, expiry⟩ (.resolve x)]) := by
  obtain ⟨s', hs'⟩ := c09_from_wait c
    { s with ds := some (.free, g + 1), attempts := (if s.attempts.contains aid then s.attempts else s.attempts ++ [aid]) }
    info amount expiry (s.mono + (c.mppTimeout - (s.wall - t))) pid x (him.fresh_marked hds) hpid
  exact ⟨s', srunO_append
    (srunO_append (c09_pending_mark_failed him hds expiry hok hcp)
      (srunO_last (.stay _ rfl (.head _) lookupS_single (if_neg hleft)))) hs'⟩

/-- Pinned tree (defect D4): the image "Pending, attempt record missing" (a crash between the two
    writes of `add_payment_attempt`) is answered temporary_node_failure and is left EXACTLY as it was —
    so every later set meets the same fate. -/
theorem c09_pinned_wedge :
    ∃ outs, srunO { cltvDelta := 34, policyDelta := 144, feeBase := 1000, feePpm := 5000, mppTimeout := 60 } .pinned { SState.init with ds := some (.pending 1 0, 0), nextAid := 2 }
      [ .arrive ⟨0, 1000000, true⟩ 1006000 1400 300 1006000, .serve .owner .dsList, .deliver .owner .dsList,
        .serve .owner (.prov .listComplete), .serve .owner (.prov .listPending),
        .deliver .owner (.prov .listComplete), .deliver .owner (.prov .listPending),
        .serve .owner (.dsWriteAttempt 1 (.mustReplace none)), .deliver .owner (.dsWriteAttempt 1 (.mustReplace none)) ] =
      some ({ SState.init with ds := some (.pending 1 0, 0), nextAid := 2, nextInv := 1 }, outs) ∧
      outs = [Out.resp ⟨0, 1006000, 1400⟩ (.fail .tnf)] := ⟨_, rfl, rfl⟩

/-! Non-vacuity: the hypotheses of the image theorems are met by concrete images. -/
example : Image { SState.init with ds := some (.pending 1 0, 0), nextAid := 2, parts := [⟨1, .failed⟩] } :=
  ⟨rfl, rfl, rfl, rfl, by intro a ha; simp [SState.init] at ha,
   by intro a t g h; simp only [Option.some.injEq, Prod.mk.injEq, DsVal.pending.injEq] at h; obtain ⟨⟨h1, _⟩, _⟩ := h; subst h1; decide⟩
example : ProbeOk { cltvDelta := 34, policyDelta := 144, feeBase := 1000, feePpm := 5000, mppTimeout := 60 }
    ⟨0, 1000000, true⟩ 1006000 300 1006000 := ⟨by decide, by decide, by decide, by decide⟩

end Tramp
