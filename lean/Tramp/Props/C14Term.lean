/-
C14 ∧ C06 over all payment hashes: the whole plugin comes to rest.

`c06_no_infinite_internal_run` is about one payment hash. Here the same is proved of the product of
all hashes (M7'): starting in any reachable state of the whole plugin there is no infinite run made
only of internal steps — of ANY hashes, interleaved in any way. No payment can keep the plugin busy
forever, alone or in a ping-pong with other payments, so a stimulus for one payment (its timer, a
part of it resolving) is never starved by internal activity of the others.

Proof: only finitely many hashes have ever been touched (the others hold the initial component, on
which no internal step is possible); an internal step of hash `h` strictly decreases the measure of
component `h` (`c06_internal_steps_decrease`; the component is reachable on its own by `grun_reach`)
and leaves every other component as it was (`c14_frame`); "one position of a finite vector decreases
in a well-founded order, the others stay" is well-founded (induction on the vector, lexicographic
product).
-/
import Tramp.Props.C06Term
import Tramp.Props.C14Live

namespace Tramp

/-- `wf_one_position` for the vector of termination measures, one position per payment hash -/
theorem rh_wf (H : List Nat) : WellFounded fun f' f : Nat → (Nat × Nat) × Nat =>
    ∃ h ∈ H, ltM (f' h) (f h) ∧ ∀ k ∈ H, k ≠ h → f' k = f k :=
  wf_one_position ltM_wf H

/-- nothing of the plugin is live for this hash -/
def Idle (s : SState) : Prop := s.active = none ∧ s.bks = []

/-- every internal step is taken by the owner of an entry or by a bookkeeper -/
theorem idle_no_internal (c : Cfg) {s : SState} {a : SAct} (hi : Idle s) (ha : a.isInternal = true) :
    sstep c .current s a = none := by
  refine sstep_none fun s' outs hs => ?_
  have noOwner : ∀ {e o}, s.active ≠ some (e, o) := fun h => nomatch hi.1.symm.trans h
  have noBk : ∀ {id b}, findBk s.bks id ≠ some b := fun h => by rw [hi.2] at h; cases h
  induction hs with
  | env he =>
    induction he with
    | bkServe _ _ h | bkFault _ _ _ h | bkNext _ _ h | bkDone _ _ h => exact noBk h
    | _ => cases ha
  | crash | arriveNew | arrive => cases ha
  | payEnd _ h | serveOwner _ h | faultOwner _ _ h | stay _ h | pay _ h | finish _ h | finishBk _ h | panic _ h
  | timerFire h | takeFail h | takeReady h | readParams h | readHeight h => exact noOwner h

def hashesOf (acts : List GAct) : List Nat :=
  acts.filterMap fun | .comp h _ => some h | _ => none

theorem gstep_idle {c : Cfg} {g g' : GState} {a : GAct} {outs : List (Nat × Out)} {k : Nat}
    (hs : gstep c .current g a = some (g', outs)) (hk : ∀ h sa, a = .comp h sa → k ≠ h) (hi : Idle (g.comps k)) :
    Idle (g'.comps k) := by
  cases a with
  | comp h sa => rw [(c14_frame c .current g g' h sa outs hs).1 k (hk h sa rfl)]; exact hi
  | crash => cases hs; exact ⟨rfl, rfl⟩
  | _ => cases hs; exact hi

theorem grun_idle {c : Cfg} {acts : List GAct} {g g' : GState} {outs : List (Nat × Out)} {k : Nat}
    (hr : grun c .current g acts = some (g', outs)) (hk : k ∉ hashesOf acts) (hi : Idle (g.comps k)) :
    Idle (g'.comps k) :=
  grun_induction (P := fun g => Idle (g.comps k)) (A := fun a => ∀ h sa, a = .comp h sa → k ≠ h)
    (fun _ _ _ _ hi ha hs => gstep_idle hs ha hi) hi
    (fun a ha h sa hae hkh => hk (List.mem_filterMap.mpr ⟨a, ha, by rw [hae, hkh]⟩)) hr

/-- an internal step of the whole plugin: an internal step of one component -/
def GAct.isInternal : GAct → Bool
  | .comp _ a => a.isInternal
  | _ => false

theorem gstep_internal {c : Cfg} {g g' : GState} {a : GAct} {outs : List (Nat × Out)} (hi : a.isInternal = true)
    (hs : gstep c .current g a = some (g', outs)) :
    ∃ h sa o, sa.isInternal = true ∧ sstep c .current (g.comps h) sa = some (g'.comps h, o) ∧
      ¬ Idle (g.comps h) ∧ ∀ k, k ≠ h → g'.comps k = g.comps k := by
  cases a with
  | comp h sa =>
    have hst := gstep_proj hs h
    rw [projAct_comp] at hst
    obtain ⟨o, hst, _⟩ := hst
    exact ⟨h, sa, o, hi, hst, fun hidle => (nomatch (idle_no_internal c hidle hi).symm.trans hst),
      (c14_frame c .current g g' h sa outs hs).1⟩
  | _ => cases hi

/-- NO infinite run of the whole plugin made only of internal steps starts in a reachable state,
    however the steps of different payment hashes are interleaved. -/
theorem c14_no_infinite_internal_run (c : Cfg) (G : Nat → GState) (A : Nat → GAct) (h0 : GReach c (G 0))
    (hstep : ∀ n, (A n).isInternal = true ∧ (A n).writeFaultOnly ∧
      ∃ outs, gstep c .current (G n) (A n) = some (G (n + 1), outs)) : False := by
  obtain ⟨gacts, gouts, hf0, hr0⟩ := h0
  -- every component stays reachable on its own; the components the run to `G 0` did not touch stay idle
  have hinv : ∀ n, (∀ h, Reach c ((G n).comps h)) ∧ ∀ k, k ∉ hashesOf gacts → Idle ((G n).comps k) := by
    intro n
    induction n with
    | zero => exact ⟨GReach.comp ⟨gacts, gouts, hf0, hr0⟩, fun k hk => grun_idle hr0 hk ⟨rfl, rfl⟩⟩
    | succ n ih =>
      obtain ⟨hi, hf, outs, hs⟩ := hstep n
      refine ⟨gstep_reach hf ih.1 hs, fun k hk => ?_⟩
      obtain ⟨h, _, _, _, _, hbusy, hframe⟩ := gstep_internal hi hs
      rw [hframe k (fun hkh => hbusy (hkh ▸ ih.2 k hk))]
      exact ih.2 k hk
  refine no_infinite_descent (rh_wf (hashesOf gacts)) (fun n k => termMeas ((G n).comps k)) fun n => ?_
  obtain ⟨hi, _, outs, hs⟩ := hstep n
  obtain ⟨h, sa, o, hsa, hst, hbusy, hframe⟩ := gstep_internal hi hs
  exact ⟨h, Classical.byContradiction fun hn => hbusy ((hinv n).2 h hn),
    c06_internal_steps_decrease c _ _ sa o ((hinv n).1 h) hsa hst, fun k _ hne => congrArg termMeas (hframe k hne)⟩

/-- non-vacuity: two payments of different hashes arrive; the listdatastore requests of both are
    answered one after the other — two internal steps of different components from a reachable state
    of the whole plugin, each decreasing its own component's measure. -/
example : ∃ g g1 g2 o1 o2, GReach demoCfg g ∧
    gstep demoCfg .current g (.comp 1 (.serve .owner .dsList)) = some (g1, o1) ∧
    gstep demoCfg .current g1 (.comp 2 (.serve .owner .dsList)) = some (g2, o2) ∧
    termMeas (g.comps 1) = ((31, 0), 1) ∧ termMeas (g2.comps 1) = ((31, 0), 0) ∧
    termMeas (g.comps 2) = ((31, 0), 1) ∧ termMeas (g2.comps 2) = ((31, 0), 0) := by
  refine ⟨_, _, _, _, _, ⟨[.comp 1 (.arrive ⟨0, 1000000, true⟩ 1006000 1400 300 1006000),
    .comp 2 (.arrive ⟨0, 1000000, true⟩ 1006000 1400 300 1006000)], _, ?_, rfl⟩, rfl, rfl, rfl, rfl, rfl, rfl⟩
  intro a ha; simp at ha; rcases ha with rfl | rfl <;> trivial

end Tramp
