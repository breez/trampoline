/-
C01 — An incoming HTLC is settled only with a preimage of its own payment hash.

Statement: whenever the plugin tells the node to settle an incoming HTLC, the key it supplies hashes
(SHA-256) to that HTLC's payment hash and comes from a completed outgoing payment, or the durable
record of one, for that same hash. Consequently the plugin never pays an invoice on behalf of an HTLC
whose payment hash differs from the invoice's payment hash.

In M7 one component = one payment hash `h`; by `c10_hash_eq` (C10) every invocation that enters the
component has `h` as its own hash and its invoice is for `h`. SHA-256 is not modelled: E2 says the
node marks a part of hash `h` complete only with a preimage of `h`; `c01_key_valid` makes that
explicit with an arbitrary predicate `valid` ("hashes to h").
-/
import Tramp.Props.Sys
import Tramp.Props.C10

namespace Tramp

/-- every settlement handed to the node carries the preimage of a part of THIS hash that is complete
    at that instant (the durable record of one is covered too: invariant (S) ties it to such a part) -/
theorem c01_resolve_key (c : Cfg) (s s' : SState) (a : SAct) (outs : List Out) (i : Inv) (pre : Nat)
    (hr : Reach c s) (hs : sstep c .current s a = some (s', outs)) (ho : Out.resp i (.resolve pre) ∈ outs) :
    HasComplete s.parts pre := by
  obtain ⟨e, o, hact, hi, houts, hnone, hok⟩ := (hr.emit a hs).resp ho
  exact hok

def PartsValid (valid : Nat → Prop) (ps : List Part) : Prop := ∀ p ∈ ps, ∀ x, p.st = .complete x → valid x

def ActsValid (valid : Nat → Prop) (acts : List SAct) : Prop := ∀ id x, SAct.resolve id (.complete x) ∈ acts → valid x

theorem partsValid_step (c : Cfg) (valid : Nat → Prop) {s s' : SState} {outs : List Out} (a : SAct)
    (hv : ∀ id x, a = .resolve id (.complete x) → valid x)
    (hs : sstep c .current s a = some (s', outs)) (h : PartsValid valid s.parts) : PartsValid valid s'.parts := by
  rcases sstep_parts c a hs with hp | ⟨id, _, hp⟩ | ⟨id, st, ha, _, hp⟩ <;> rw [hp]
  · exact h
  · intro p hp' x hx
    rcases List.mem_append.mp hp' with hp' | hp'
    · exact h p hp' x hx
    · cases List.mem_singleton.mp hp'
      cases hx
  · intro q hq x hx
    obtain ⟨p, hp', _, hcase⟩ := resolvePart_mem hq
    rcases hcase with rfl | ⟨_, hqs⟩
    · exact h _ hp' x hx
    · rw [hqs] at hx; subst hx; exact hv id x ha

/-- E2 made explicit: if the environment completes parts only with keys satisfying `valid`
    ("SHA-256 of the key is this payment hash"), every key the plugin settles with satisfies it. -/
theorem c01_key_valid (c : Cfg) (valid : Nat → Prop) (acts : List SAct) (s s' : SState) (a : SAct) (outs : List Out)
    (i : Inv) (pre : Nat) (hf : WriteFaultsOnly acts) (hv : ActsValid valid acts)
    (hr : srun c .current SState.init acts = some s)
    (hs : sstep c .current s a = some (s', outs)) (ho : Out.resp i (.resolve pre) ∈ outs) : valid pre := by
  have hpv : PartsValid valid s.parts :=
    srun_induction (P := fun s => PartsValid valid s.parts) (A := fun a => ∀ id x, a = .resolve id (.complete x) → valid x)
      (fun _ a _ _ h ha hs => partsValid_step c valid a ha hs h) (s := SState.init) (fun _ hp => nomatch hp)
      (fun a ha id x hax => hv id x (hax ▸ ha)) hr
  obtain ⟨p, hp, hst⟩ := c01_resolve_key c s s' a outs i pre ⟨acts, hf, hr⟩ hs ho
  exact hpv p hp pre hst

/-- the invoice paid is the invoice of the table entry, i.e. of the HTLCs being held: the `pay`
    request is built from the entry's own `TrampolineInfo` -/
theorem c01_pay_is_entry_invoice (c : Cfg) (s s' : SState) (a : SAct) (outs : List Out) (b : Nat) (am : Option Nat)
    (mf md : Nat) (hr : Reach c s) (hs : sstep c .current s a = some (s', outs)) (ho : Out.pay b am mf md ∈ outs) :
    ∃ e o, s.active = some (e, o) ∧ b = e.info.bolt11 := by
  obtain ⟨e, o, _, _, hact, _, hb, _⟩ := (hr.emit a hs).pay ho
  exact ⟨e, o, hact, hb⟩

end Tramp
