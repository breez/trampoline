/-
C18 — TLV codec is total and lossless.

Statement: decoding never panics on any byte string: it either returns records
or an error. For every valid BOLT TLV stream, decoding then encoding reproduces the input bytes
exactly, and encoding then decoding reproduces the records; truncated-integer fields decode to
their big-endian value for lengths 0 to 8 and are rejected above 8.
-/
import Tramp.Proofs.Tlv

namespace Tramp

/-- Totality of `from_bytes`: for EVERY byte string the result is records or an error. -/
theorem c18_total_fromBytes (bs : Bytes) : fromBytes bs ≠ .panic :=
  fromBytesAux_no_panic bs.length bs (Nat.le_refl _)

/-- Totality of the length-prefixed entry point `TryFrom<Vec<u8>>`. -/
theorem c18_total_tryFrom (bs : Bytes) : tryFromPrefixed bs ≠ .panic := by
  unfold tryFromPrefixed
  fun_cases tryFromPrefixedWith .checked bs with
  | case1 => nofun
  | case2 _ _ rest => exact c18_total_fromBytes rest
  | case3 => nofun
  | case4 _ hp => exact absurd hp (getCompactSize_no_panic bs)

/-- encode ∘ decode: every record list (u64 types and lengths) survives the round trip. -/
theorem c18_encode_decode (es : List Entry) (h : EntriesOk es) : fromBytes (toBytes es) = .ok es :=
  fromBytesAux_toBytes .checked es h _ (Nat.le_refl _)

/-- lossless ⇒ unambiguous: two well-formed record lists with the same encoding are the same list
    (no two different TLV streams of the plugin's own making can be confused on the wire). -/
theorem c18_encode_injective (a b : List Entry) (ha : EntriesOk a) (hb : EntriesOk b)
    (h : toBytes a = toBytes b) : a = b := by
  have h1 := c18_encode_decode a ha
  rw [h, c18_encode_decode b hb] at h1
  exact (Res.ok.inj h1).symm

/-- decode ∘ encode: on every valid BOLT TLV stream the decoder returns exactly the records the
    strict reference decoder sees, and re-encoding them reproduces the input byte for byte. -/
theorem c18_decode_encode (bs : Bytes) (es : List Entry) (h : strictDecode bs = some es) :
    fromBytes bs = .ok es ∧ toBytes es = bs := by
  have ⟨e, ok⟩ := strictDecode_spec h
  subst e
  exact ⟨c18_encode_decode es ok, rfl⟩

/-- truncated u64: 0..8 bytes decode to their big-endian value (0 bytes → 0) -/
theorem c18_tu64_value (bs : Bytes) (h : bs.length ≤ 8) : getTu64 bs = .ok (beVal bs) := by
  unfold getTu64
  split
  · rename_i h0
    rw [List.length_eq_zero_iff.mp h0]
    rfl
  · rw [if_neg (Nat.not_lt.mpr h)]

/-- … and are rejected above 8 bytes -/
theorem c18_tu64_reject (bs : Bytes) (h : bs.length > 8) : getTu64 bs = .err := by
  rw [getTu64, if_neg (by omega), if_pos h]

/-- BigSize: reading what was written returns the value and leaves the following bytes alone. -/
theorem c18_bigsize_roundtrip (n : Nat) (hn : n < 2 ^ 64) (rest : Bytes) :
    getCompactSize (putCompactSize n ++ rest) = .ok (n, rest) :=
  getCompactSizeWith_put .checked n hn rest

/-- The pinned tree (unchecked `get_u16`): a two-byte input panics. Machine-checked regression
    witness for defect D2; replayed on the code by suite `tlv`. -/
theorem c18_pinned_counterexample :
    fromBytesPinned [0xfd, 0x00] = .panic ∧ tryFromPrefixedPinned [0xfd] = .panic := by
  constructor <;> rfl

/-! Non-vacuity: the hypotheses are met by concrete non-trivial inputs. -/
example : strictDecode [0x01, 0x02, 0xaa, 0xbb, 0xfd, 0x01, 0x00, 0x00] =
    some [⟨1, [0xaa, 0xbb]⟩, ⟨256, []⟩] := by rfl
example : EntriesOk [⟨16, [1, 2, 3]⟩, ⟨33001, []⟩] := by
  unfold EntriesOk
  decide
example : fromBytes [0xfd, 0x00] = .err := by rfl
example : getTu64 [1, 0] = .ok 256 := by rfl

end Tramp
