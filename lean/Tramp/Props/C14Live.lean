/-
C14 ∧ C06 over all hashes: a payment can always be brought to an answer without any other hash
making a move.

Whatever the other components are doing — stalled at an RPC that is never answered, waiting on a
timer, in the middle of bookkeeping — the HTLCs held for hash `h` can be answered by a continuation
that consists only of actions of component `h` and of the passage of time. The other components are
left exactly as they were except for the clocks (no request of theirs is served, nothing of theirs is
delivered, written or resolved).

The file also holds the per-hash safety theorems lifted to all hashes (`c01_global` … `c11_global`): a step of the
whole plugin that produces an output of hash `h` is a step of component `h` (`gstep_out`, Proofs/Product), which is
reachable on its own (`GReach.comp`, Props/GSys).
-/
import Tramp.Props.C06Live
import Tramp.Props.C14
import Tramp.Props.GSys
import Tramp.Props.C01
import Tramp.Props.C02
import Tramp.Props.C05
import Tramp.Props.C08
import Tramp.Props.C04
import Tramp.Props.C11

namespace Tramp

/-- an action of one component as an action of the whole plugin: the clocks and the chain are shared -/
def liftAct (h : Nat) : SAct → GAct
  | .tickMono dt => .tickMono dt
  | .tickWall dt => .tickWall dt
  | .block n => .block n
  | a => .comp h a

/-- everything of a component but the clocks and the height register -/
def SameButClocks (s s' : SState) : Prop :=
  s'.active = s.active ∧ s'.bks = s.bks ∧ s'.parts = s.parts ∧ s'.ds = s.ds ∧ s'.attempts = s.attempts ∧
  s'.payRunning = s.payRunning ∧ s'.nextInv = s.nextInv ∧ s'.nextBk = s.nextBk ∧ s'.nextAid = s.nextAid ∧
  s'.panicked = s.panicked

/-- stated for the three shared fields at once, so that it covers each shared action (and `s` itself) -/
theorem sameButClocks_set (s : SState) (mono wall height : Nat) :
    SameButClocks s { s with mono := mono, wall := wall, height := height } :=
  ⟨rfl, rfl, rfl, rfl, rfl, rfl, rfl, rfl, rfl, rfl⟩

theorem sameButClocks_refl (s : SState) : SameButClocks s s := sameButClocks_set s s.mono s.wall s.height

theorem sameButClocks_trans {a b c : SState} (h1 : SameButClocks a b) (h2 : SameButClocks b c) : SameButClocks a c := by
  obtain ⟨a1, a2, a3, a4, a5, a6, a7, a8, a9, a10⟩ := h1
  obtain ⟨b1, b2, b3, b4, b5, b6, b7, b8, b9, b10⟩ := h2
  exact ⟨b1.trans a1, b2.trans a2, b3.trans a3, b4.trans a4, b5.trans a5, b6.trans a6, b7.trans a7, b8.trans a8,
    b9.trans a9, b10.trans a10⟩

/-- a step of component `h` is a step of the whole plugin that leaves the other components alone -/
theorem lift_comp {c : Cfg} {g : GState} {h : Nat} {a : SAct} {s' : SState} {outs : List Out}
    (hs : sstep c .current (g.comps h) a = some (s', outs)) :
    ∃ g', gstep c .current g (.comp h a) = some (g', outs.map (fun o => (h, o))) ∧ g'.comps h = s' ∧
      ∀ k, k ≠ h → SameButClocks (g.comps k) (g'.comps k) :=
  ⟨⟨setComp g.comps h s'⟩, by rw [gstep_comp, hs]; rfl, setComp_same ..,
    fun k hk => by simp only [setComp_other hk]; exact sameButClocks_refl _⟩

theorem lift_step {c : Cfg} {g : GState} {h : Nat} {a : SAct} {s' : SState} {outs : List Out}
    (hs : sstep c .current (g.comps h) a = some (s', outs)) :
    ∃ g', gstep c .current g (liftAct h a) = some (g', outs.map (fun o => (h, o))) ∧ g'.comps h = s' ∧
      ∀ k, k ≠ h → SameButClocks (g.comps k) (g'.comps k) := by
  cases a with
  | tickMono dt | tickWall dt | block n => cases hs; exact ⟨_, rfl, rfl, fun k _ => sameButClocks_set ..⟩
  | _ => exact lift_comp hs

theorem lift_run {c : Cfg} {h : Nat} {acts : List SAct} {g : GState} {s' : SState} {outs : List Out}
    (hr : srunO c .current (g.comps h) acts = some (s', outs)) :
    ∃ g', grun c .current g (acts.map (liftAct h)) = some (g', outs.map (fun o => (h, o))) ∧ g'.comps h = s' ∧
      ∀ k, k ≠ h → SameButClocks (g.comps k) (g'.comps k) := by
  induction acts generalizing g outs with
  | nil => cases hr; exact ⟨g, rfl, rfl, fun k _ => sameButClocks_refl _⟩
  | cons a as ih =>
    obtain ⟨s1, o1, o2, h1, h2, rfl⟩ := srunO_cons_some hr
    obtain ⟨g1, hg1, rfl, hk1⟩ := lift_step h1
    obtain ⟨g2, hg2, hc2, hk2⟩ := ih h2
    exact ⟨g2, by simp only [List.map_cons, grun, hg1, hg2, List.map_append], hc2,
      fun k hk => sameButClocks_trans (hk1 k hk) (hk2 k hk)⟩

/-- **Isolation of progress.** Whatever the components of the other hashes are doing, the HTLCs held for
    hash `h` (whose component is in a reachable state) can be answered by a continuation in which only
    component `h` acts and time passes; every other component is left as it was apart from the clocks:
    none of its requests is served, nothing is delivered to it, nothing of it is written or resolved. -/
theorem c14_progress_despite_frozen (c : Cfg) (g : GState) (h : Nat) (e : PEntry) (o : Owner)
    (hr : Reach c (g.comps h)) (hact : (g.comps h).active = some (e, o)) :
    ∃ acts g' outs, grun c .current g acts = some (g', outs) ∧ (g'.comps h).active = none ∧
      (∀ i ∈ e.listeners, ∃ rr, (h, Out.resp i rr) ∈ outs) ∧
      (∀ x ∈ outs, x.1 = h) ∧
      ∀ k, k ≠ h → SameButClocks (g.comps k) (g'.comps k) := by
  obtain ⟨acts, s', outs, _, _, hrun, hnone, hall⟩ := c06_can_always_answer c (g.comps h) e o hr hact
  obtain ⟨g', hg, hc, hk⟩ := lift_run hrun
  refine ⟨acts.map (liftAct h), g', outs.map (fun o => (h, o)), hg, by rw [hc]; exact hnone, ?_, ?_, hk⟩
  · intro i hi
    obtain ⟨rr, hrr⟩ := hall i hi
    exact ⟨rr, List.mem_map.mpr ⟨_, hrr, rfl⟩⟩
  · intro x hx
    obtain ⟨o', _, rfl⟩ := List.mem_map.mp hx
    rfl

/-! ### the per-hash safety properties, for every hash of every reachable state of the whole plugin

A global step that produces an output of hash `h` is a step of component `h`, which is reachable on
its own (`grun_reach`); hence the component-level theorems hold of every payment at once, whatever the
other payments do in between. -/

/-- the same with reachability of the whole plugin as the hypothesis -/
theorem c14_progress_despite_frozen_global (c : Cfg) (gacts : List GAct) (g : GState) (gouts : List (Nat × Out))
    (hf : ∀ a ∈ gacts, a.writeFaultOnly) (hr : grun c .current ginit gacts = some (g, gouts))
    (h : Nat) (e : PEntry) (o : Owner) (hact : (g.comps h).active = some (e, o)) :
    ∃ acts g' outs, grun c .current g acts = some (g', outs) ∧ (g'.comps h).active = none ∧
      (∀ i ∈ e.listeners, ∃ rr, (h, Out.resp i rr) ∈ outs) ∧ (∀ x ∈ outs, x.1 = h) ∧
      ∀ k, k ≠ h → SameButClocks (g.comps k) (g'.comps k) :=
  c14_progress_despite_frozen c g h e o (GReach.comp ⟨gacts, gouts, hf, hr⟩ h) hact

/-- C01 for every hash: a `resolve` of an HTLC of hash `h` carries the preimage of a completed part of hash `h` -/
theorem c01_global (c : Cfg) (g g' : GState) (a : GAct) (outs : List (Nat × Out)) (h : Nat) (i : Inv) (pre : Nat)
    (hg : GReach c g) (hs : gstep c .current g a = some (g', outs)) (ho : (h, Out.resp i (.resolve pre)) ∈ outs) :
    HasComplete (g.comps h).parts pre := by
  obtain ⟨sa, s', os, hst, hmem⟩ := gstep_out hs ho
  exact c01_resolve_key c (g.comps h) s' sa os i pre (hg.comp h) hst hmem

/-- C02 for every hash: an HTLC of hash `h` is failed only while nothing of hash `h` is live -/
theorem c02_global (c : Cfg) (g g' : GState) (a : GAct) (outs : List (Nat × Out)) (h : Nat) (i : Inv) (fr : FailReason)
    (hg : GReach c g) (hs : gstep c .current g a = some (g', outs)) (ho : (h, Out.resp i (.fail fr)) ∈ outs) :
    partsQuiet (g.comps h).parts ∧ (g.comps h).payRunning = false := by
  obtain ⟨sa, s', os, hst, hmem⟩ := gstep_out hs ho
  exact c02_fail_only_when_quiet c (g.comps h) s' sa os i fr (hg.comp h) hst hmem

/-- C05 for every hash: a pay request for hash `h` is issued only while nothing of hash `h` is live -/
theorem c05_global (c : Cfg) (g g' : GState) (a : GAct) (outs : List (Nat × Out)) (h b : Nat) (am : Option Nat) (mf md : Nat)
    (hg : GReach c g) (hs : gstep c .current g a = some (g', outs)) (ho : (h, Out.pay b am mf md) ∈ outs) :
    partsQuiet (g.comps h).parts ∧ (g.comps h).payRunning = false := by
  obtain ⟨sa, s', os, hst, hmem⟩ := gstep_out hs ho
  exact c05_pay_only_when_quiet c (g.comps h) s' sa os b am mf md (hg.comp h) hst hmem

/-- C08 for every hash, in every reachable state of the whole plugin (each is a possible crash image) -/
theorem c08_global (c : Cfg) (g : GState) (h : Nat) (hg : GReach c g) (hlive : ¬ partsQuiet (g.comps h).parts) :
    ∃ v gen, (g.comps h).ds = some (v, gen) ∧ v ≠ .free :=
  c08_write_ahead c (g.comps h) (hg.comp h) hlive

/-- C04 for every hash: the delay of a pay request for hash `h` against the HTLCs of hash `h` held at
    initiation and a past height of the shared register -/
theorem c04_global (c : Cfg) (g g' : GState) (a : GAct) (outs : List (Nat × Out)) (h b : Nat) (am : Option Nat) (mf md : Nat)
    (hg : GReach c g) (hs : gstep c .current g a = some (g', outs)) (ho : (h, Out.pay b am mf md) ∈ outs) :
    ∃ e o exp ht k, (g.comps h).active = some (e, o) ∧ k ≤ e.listeners.length ∧ (∀ i ∈ e.listeners.take k, exp ≤ i.expiry) ∧
      ht ≤ (g.comps h).height ∧ md = maxDelay c exp ht ∧ md ≤ exp - ht - c.cltvDelta ∧ md ≤ c.policyDelta := by
  obtain ⟨sa, s', os, hst, hmem⟩ := gstep_out hs ho
  exact c04_end_to_end c (g.comps h) s' sa os b am mf md (hg.comp h) hst hmem

/-- C11/C06 for every hash: a waiting lifecycle's deadline is at most one MPP timeout ahead of the clock -/
theorem c11_global (c : Cfg) (g : GState) (h : Nat) (hg : GReach c g) : DeadlineOk c (g.comps h) := by
  obtain ⟨acts, _, hr⟩ := hg.comp h
  exact c11_deadline_bound c acts (g.comps h) hr

/-- non-vacuity: two payments; the first one's very first RPC is never answered, the second one holds
    an HTLC — the state is reachable and the second payment's component has a live lifecycle -/
example : ∃ g e o, GReach demoCfg g ∧ (g.comps 2).active = some (e, o) ∧ e.listeners.length = 1 ∧
    (∃ e1 o1, (g.comps 1).active = some (e1, o1) ∧ o1.pc = .fetch ∧ o1.served = []) := by
  refine ⟨_, _, _, ⟨[.comp 1 (.arrive ⟨7, 1000000, true⟩ 1006000 1400 300 1006000),
                     .comp 2 (.arrive ⟨8, 1000000, true⟩ 500000 1400 300 1006000)], _, ?_, rfl⟩, rfl, rfl, _, _, rfl, rfl, rfl⟩
  intro a ha; simp at ha; rcases ha with rfl | rfl <;> trivial

end Tramp
