/-
C16 — Pay wrapper: success only with a real preimage, failure only when final.

Statement: for every way the node's pay command can end (complete, pending, failed with or without
a partial-completion warning, RPC error) combined with every state of the payment's parts, the
wrapper returns success only with the preimage of a completed part and returns failure only when
no part of that payment is pending or complete.

Quantification: every initial table of earlier parts, every sequence of part creations by the
running pay command, resolutions, the pay command ending with ANY reply allowed by E3 (COMPLETE
carries the preimage of a complete part; otherwise the status is unconstrained), served and
delivered listings/waits in any order. `c16_err` needs truthful reads (`noReadFault`): a read error
inside the wait is fault K3 of C02, not part of C16's quantifier.
-/
import Tramp.Proofs.Provider

namespace Tramp

/-- the invariant holds whenever a `pay` call has run on any table of earlier parts, for any schedule;
    a read error proves that a read fault occurred -/
theorem pay_run_inv {ps : List Part} (hnd : PartsNodup ps) {acts : List PAct} {s : PSys}
    (hrun : prun Variant.current (PSys.initPay ps) acts = some s) : PInv (noReadFault acts = false) s :=
  have h0 : PInv (noReadFault acts = false) (PSys.initPay ps) :=
    ⟨hnd, fun _ => ⟨rfl, rfl⟩, fun _ hx => absurd hx List.not_mem_nil, trivial⟩
  prun_inv _ h0 hrun id

/-- success is returned only with the preimage of a part that IS complete -/
theorem c16_ok (ps : List Part) (hnd : PartsNodup ps) (acts : List PAct) (s : PSys) (x : Nat)
    (hrun : prun Variant.current (PSys.initPay ps) acts = some s)
    (hret : s.pc = .retPay (.ok x)) : HasComplete s.parts x :=
  pinv_at (pay_run_inv hnd hrun) hret

/-- failure is returned only at an instant when no part is pending or complete and the pay command
    has ended -/
theorem c16_err (ps : List Part) (hnd : PartsNodup ps) (acts : List PAct) (s : PSys)
    (hrun : prun Variant.current (PSys.initPay ps) acts = some s) (hnf : noReadFault acts = true)
    (hret : s.pc = .retPay .err) : partsQuiet s.parts ∧ s.payRunning = false :=
  have h := pay_run_inv hnd hrun
  ⟨(pinv_at h hret).resolve_right fun hf => Bool.eq_false_iff.mp hf hnf,
    pinv_idle h (by rw [hret]; exact PPc.noConfusion)⟩

/-- Pinned tree: `FAILED` without a warning returns `Err` unchecked, with a part still pending. -/
theorem c16_pinned_counterexample :
    ∃ acts s, prun Variant.pinned (PSys.initPay []) acts = some s ∧ s.pc = .retPay .err ∧
      ¬ partsQuiet s.parts := by
  refine ⟨[.create 1, .payEnd (.payFailed false), .deliver .pay], _, rfl, rfl, ?_⟩
  decide

/-! Non-vacuity -/
example : ∃ s, prun Variant.current (PSys.initPay [])
    [.create 1, .payEnd (.payFailed false), .deliver .pay, .serve .listPending, .deliver .listPending,
     .resolve 1 .failed, .serve .listComplete, .deliver .listComplete, .serve (.waitPart 1),
     .deliver (.waitPart 1)] = some s ∧ s.pc = .retPay .err := ⟨_, rfl, rfl⟩
example : ∃ s, prun Variant.current (PSys.initPay [])
    [.create 1, .resolve 1 (.complete 5), .payEnd (.payComplete 5), .deliver .pay] = some s ∧
    s.pc = .retPay (.ok 5) := ⟨_, rfl, rfl⟩

end Tramp
