/-
C02 — Incoming HTLCs are never failed back while the outgoing payment can succeed.

Statement: once an outgoing payment attempt for a payment hash exists on the node, the plugin fails
an incoming HTLC it is holding for that hash only at a moment when no outgoing part for the hash is
pending or complete and no pay command for it is running. This holds across restarts: replayed
HTLCs of a payment that was in flight stay held until the fate of the interrupted attempt is known,
and are settled with its preimage if it completes.

Proved for every reachable state of M7: every interleaving, every crash point, every stored
history the system itself can produce, every write fault. Read faults are NOT covered: K2 and K3
(known findings, thorough tier) are exactly what happens under them; `c02_readfault_counterexample`
machine-checks K2 on the model.
-/
import Tramp.Props.Sys

namespace Tramp

/-- a failure is handed to the node only in a state where nothing is live for this hash -/
theorem c02_fail_only_when_quiet (c : Cfg) (s s' : SState) (a : SAct) (outs : List Out) (i : Inv) (fr : FailReason)
    (hr : Reach c s) (hs : sstep c .current s a = some (s', outs)) (ho : Out.resp i (.fail fr) ∈ outs) :
    partsQuiet s.parts ∧ s.payRunning = false := by
  obtain ⟨e, o, hact, hi, houts, hnone, hok⟩ := (hr.emit a hs).resp ho
  exact hok

/-- across restarts: as long as a part of an earlier attempt is pending or complete, whatever the
    plugin answers to a held HTLC is a settlement -/
theorem c02_live_means_held_or_settled (c : Cfg) (s s' : SState) (a : SAct) (outs : List Out) (i : Inv) (r : Resp)
    (hr : Reach c s) (hlive : ¬ partsQuiet s.parts) (hs : sstep c .current s a = some (s', outs))
    (ho : Out.resp i r ∈ outs) : ∃ pre, r = .resolve pre ∧ HasComplete s.parts pre := by
  obtain ⟨e, o, hact, hi, houts, hnone, hok⟩ := (hr.emit a hs).resp ho
  cases r with
  | fail fr => exact absurd hok.1 hlive
  | resolve pre => exact ⟨pre, rfl, hok⟩

/-- the restart path settles with the preimage the wait found -/
theorem c02_restart_settles (aid g t pre : Nat) :
    afterRestartWait aid g t (.ret (.some pre)) = .finishBk (.resolve pre) (.succS aid pre) := rfl

/-- K2 on the model: a failing `listdatastore` at lifecycle start fails the HTLC with
    temporary_node_failure although a part of the interrupted attempt is pending. -/
theorem c02_readfault_counterexample :
    ∃ acts s outs, srun demoCfg .current SState.init acts = some s ∧
      sstep demoCfg .current s (.deliver .owner .dsList) = some outs ∧
      (∃ i, Out.resp i (.fail .tnf) ∈ outs.2) ∧ ¬ partsQuiet s.parts := by
  refine ⟨demoActs.take 11 ++ [.crash, .arrive ⟨0, 1000000, true⟩ 1006000 1400 300 1006000,
      .fault .owner .dsList .readErr], _, _, rfl, rfl, ⟨⟨1, 1006000, 1400⟩, by decide⟩, by decide⟩

end Tramp
