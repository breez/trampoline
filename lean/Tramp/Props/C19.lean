/-
C19 — Startup configuration is validated and applied faithfully.

Statement: for every combination of option values the plugin either refuses to start (a value out
of range, or a policy CLTV delta not greater than the safety CLTV delta) or runs with exactly those
values: the policy it advertises and enforces, the MPP timeout, the payment retry time (capped at
65535 s) and the safety margin applied to pay requests equal the configured ones.

`configure` (M9) is what `main` computes; the record it returns is the parameter `cfg` of the system
model (M7), where the policy bytes (C12), the MPP timeout (C11) and the safety margin (C04) are used.
That the real binary behaves like `configure` — including what it then enforces — is observed
end to end by suite `e2e` (one process per assignment).
-/
import Tramp.Model.Config
import Tramp.Props.C12

namespace Tramp

theorem inRange_iff (x : Int) (bound : Nat) : inRange x bound = true ↔ 0 ≤ x ∧ x < bound := by
  rw [inRange, Bool.and_eq_true, decide_eq_true_eq, decide_eq_true_eq]

/-- the exact acceptance condition, for ALL integer option values -/
theorem c19_iff (o : Opts) :
    (∃ c, configure o = some c) ↔
      (0 ≤ o.cltvDelta ∧ o.cltvDelta < 65536 ∧ 0 ≤ o.policyDelta ∧ o.policyDelta < 65536 ∧
       o.policyDelta > o.cltvDelta ∧
       0 ≤ o.feeBase ∧ o.feeBase < 4294967296 ∧ 0 ≤ o.feePpm ∧ o.feePpm < 4294967296 ∧
       0 ≤ o.mppTimeout ∧ o.mppTimeout < 9223372036854775808 ∧
       0 ≤ o.payTimeout ∧ o.payTimeout < 9223372036854775808) := by
  have hv : (∃ c, configure o = some c) ↔ o.valid = true :=
    ⟨fun ⟨_, h⟩ => (Option.ite_none_right_eq_some.mp h).1, fun h => ⟨_, if_pos h⟩⟩
  rw [hv]
  simp only [Opts.valid, Bool.and_eq_true, inRange_iff, decide_eq_true_eq, and_assoc]
  -- what is left: a bound `((65536 : Nat) : Int)` against the numeral `(65536 : Int)`, equal by evaluation
  exact Iff.rfl

/-- a policy delta not greater than the safety delta is always refused -/
theorem c19_refuses_deltas (o : Opts) (h : o.policyDelta ≤ o.cltvDelta) : configure o = none := by
  cases hc : configure o with
  | none => rfl
  | some c =>
    have := (c19_iff o).mp ⟨c, hc⟩
    omega

/-- when it runs, it runs with exactly the configured values -/
theorem c19_faithful (o : Opts) (c : Config) (h : configure o = some c) :
    (c.cltvDelta : Int) = o.cltvDelta ∧ (c.policyDelta : Int) = o.policyDelta ∧
    (c.feeBase : Int) = o.feeBase ∧ (c.feePpm : Int) = o.feePpm ∧
    (c.mppTimeout : Int) = o.mppTimeout ∧
    c.retryFor = retryFor o.payTimeout.toNat ∧ c.allowSelf = !o.noSelfHints ∧ c.xpay = o.xpay := by
  -- of the conjuncts of `c19_iff` only the five lower bounds are needed: `toNat` is exact on a non-negative integer
  have ⟨h1, _, h2, _, _, h3, _, h4, _, h5, _⟩ := (c19_iff o).mp ⟨c, h⟩
  cases (Option.ite_none_right_eq_some.mp h).2
  exact ⟨Int.toNat_of_nonneg h1, Int.toNat_of_nonneg h2, Int.toNat_of_nonneg h3,
    Int.toNat_of_nonneg h4, Int.toNat_of_nonneg h5, rfl, rfl, rfl⟩

/-- the payment retry time is the configured timeout capped at 65535 s -/
theorem c19_retry_cap (secs : Nat) :
    retryFor secs ≤ 65535 ∧ (secs ≤ 65535 → retryFor secs = secs) ∧ (secs > 65535 → retryFor secs = 65535) := by
  unfold retryFor
  split <;> omega

/-- glue between C19 and C12: the policy a started plugin runs with always fits the wire fields of the
    fee-or-expiry failure (u32, u32, u16), and the advertised delta exceeds the safety delta -/
theorem c19_policy_fits (o : Opts) (c : Config) (h : configure o = some c) :
    c.feeBase < U32 ∧ c.feePpm < U32 ∧ c.policyDelta < U16 ∧ c.cltvDelta < c.policyDelta := by
  have hr := (c19_iff o).mp ⟨c, h⟩
  have hf := c19_faithful o c h
  unfold U32 U16
  omega

/-- … so the failure message built from ANY accepted configuration decodes back to exactly the
    configured option values (the hypotheses of `c12_encode` are discharged by validation). -/
theorem c19_failure_carries_options (o : Opts) (c : Config) (h : configure o = some c) :
    ∃ fb fp fd : Bytes,
      encodeFailure (.foei c.feeBase c.feePpm c.policyDelta) = [0x20, 26] ++ fb ++ fp ++ fd ∧
      fb.length = 4 ∧ fp.length = 4 ∧ fd.length = 2 ∧
      (beVal fb : Int) = o.feeBase ∧ (beVal fp : Int) = o.feePpm ∧ (beVal fd : Int) = o.policyDelta := by
  obtain ⟨hb, hp, hd, _⟩ := c19_policy_fits o c h
  obtain ⟨fb, fp, fd, he, l1, l2, l3, v1, v2, v3⟩ := c12_encode c.feeBase c.feePpm c.policyDelta hb hp hd
  obtain ⟨_, wd, wb, wp, _⟩ := c19_faithful o c h
  exact ⟨fb, fp, fd, he, l1, l2, l3, v1 ▸ wb, v2 ▸ wp, v3 ▸ wd⟩

/-! Non-vacuity -/
example : ∃ c, configure ⟨34, 1008, 0, 5000, 60, 60, false, false⟩ = some c := ⟨_, rfl⟩
example : configure ⟨34, 34, 0, 5000, 60, 60, false, false⟩ = none := by decide
example : configure ⟨34, 1008, -1, 5000, 60, 60, false, false⟩ = none := by decide

end Tramp
