/-
C12 — Fee check is arithmetically exact; its rejection carries the current policy.

Statement: the sufficiency test equals the exact integer predicate
  total ≥ amount + base_fee + ⌊amount·ppm / 10⁶⌋
for all 64-bit amounts and 32-bit policy values (false whenever the right-hand side exceeds
64 bits), without panicking [...]; a fee-or-expiry-insufficient failure encodes exactly the
configured base fee, proportional fee and CLTV delta.

`c12_exact_partial` carries the hypothesis `amount·ppm < 2⁶⁴`: outside it the code answers `false`
(`c12_mul_overflow_false`) although the exact predicate can be true
(`c12_mul_overflow_counterexample`, known finding K1 — pinned by the repository's own test
`fee_mul_overflow`, so it cannot be repaired with the test-suite unedited; it errs on the safe side:
`c12_sound` holds unconditionally, the plugin never accepts an underpaying set).
The part of C12 about the first HTLC of a payment is a statement about the lifecycle and lives in
the system model (Props/C12Sys).
-/
import Tramp.Proofs.Fee
import Tramp.Proofs.Bytes

namespace Tramp

/-- Soundness, unconditional: `true` is only ever answered when the exact predicate holds. -/
theorem c12_sound (base ppm total inv : Nat) (h : feeSufficient base ppm total inv = .ok true) :
    feeExact base ppm total inv :=
  ((feeSufficient_true_iff ..).mp h).2.2

/-- Exactness wherever the multiplication fits in 64 bits: the answer IS the exact predicate
    (and hence `false` whenever the right-hand side exceeds 64 bits, since `total < 2⁶⁴`). -/
theorem c12_exact_partial (base ppm total inv : Nat) (ht : total < U64) (hm : inv * ppm < U64) :
    (feeExact base ppm total inv → feeSufficient base ppm total inv = .ok true) ∧
    (¬ feeExact base ppm total inv → feeSufficient base ppm total inv = .ok false) := by
  constructor
  · intro h
    exact (feeSufficient_true_iff ..).mpr ⟨hm, Nat.lt_of_le_of_lt h ht, h⟩
  · intro h
    rw [feeSufficient_eq, decide_eq_false (fun hc => h hc.2.2)]

/-- Monotone in what the sender holds: a set that is sufficient stays sufficient when more arrives.
    Needs no hypothesis on `amount·ppm`: `true` was answered, so the product fitted. -/
theorem c12_mono_total (base ppm total total' inv : Nat)
    (h : feeSufficient base ppm total inv = .ok true) (hle : total ≤ total') :
    feeSufficient base ppm total' inv = .ok true := by
  have ⟨h1, h2, h3⟩ := (feeSufficient_true_iff ..).mp h
  exact (feeSufficient_true_iff ..).mpr ⟨h1, h2, Nat.le_trans h3 hle⟩

/-- Antitone in the policy: what suffices under a policy suffices under any cheaper one
    (operators lowering `base`/`ppm` never turn an accepted set into a rejected one). -/
theorem c12_anti_policy (base base' ppm ppm' total inv : Nat)
    (h : feeSufficient base ppm total inv = .ok true) (hb : base' ≤ base) (hp : ppm' ≤ ppm) :
    feeSufficient base' ppm' total inv = .ok true := by
  have ⟨h1, h2, h3⟩ := (feeSufficient_true_iff ..).mp h
  have hmul : inv * ppm' ≤ inv * ppm := Nat.mul_le_mul_left inv hp
  have hle : inv + base' + inv * ppm' / 1000000 ≤ inv + base + inv * ppm / 1000000 :=
    Nat.add_le_add (Nat.add_le_add_left hb inv) (Nat.div_le_div_right hmul)
  exact (feeSufficient_true_iff ..).mpr
    ⟨Nat.lt_of_le_of_lt hmul h1, Nat.lt_of_le_of_lt hle h2, Nat.le_trans hle h3⟩

/-- non-vacuity of the hypotheses of `c12_mono_total` and `c12_anti_policy` -/
example : feeSufficient 1000 5000 1006000 1000000 = .ok true ∧ 1006000 ≤ 2000000 ∧ 500 ≤ 1000 := by
  decide

/-- What the code does when `amount·ppm` does not fit: it answers `false`. -/
theorem c12_mul_overflow_false (base ppm total inv : Nat) (hm : inv * ppm ≥ U64) :
    feeSufficient base ppm total inv = .ok false := by
  rw [feeSufficient_eq, decide_eq_false (fun hc => Nat.not_lt.mpr hm hc.1)]

/-- No input panics or errors, in either build profile (the function does not depend on it). -/
theorem c12_total (base ppm total inv : Nat) :
    ∃ b, feeSufficient base ppm total inv = .ok b :=
  ⟨_, feeSufficient_eq ..⟩

/-- The failure message is `0x2000|26` followed by base (4 bytes), ppm (4 bytes), delta (2 bytes),
    all big-endian, and those fields decode back to exactly the configured values. -/
theorem c12_encode (base ppm delta : Nat) (hb : base < U32) (hp : ppm < U32) (hd : delta < U16) :
    ∃ fb fp fd : Bytes,
      encodeFailure (.foei base ppm delta) = [0x20, 26] ++ fb ++ fp ++ fd ∧
      fb.length = 4 ∧ fp.length = 4 ∧ fd.length = 2 ∧
      beVal fb = base ∧ beVal fp = ppm ∧ beVal fd = delta :=
  -- `U32` is `256 ^ 4` and `U16` is `256 ^ 2`, by evaluation
  ⟨beBytes 4 base, beBytes 4 ppm, beBytes 2 delta,
    by rw [encodeFailure, List.append_assoc, List.append_assoc],
    beBytes_length .., beBytes_length .., beBytes_length ..,
    beVal_beBytes_of_lt hb, beVal_beBytes_of_lt hp, beVal_beBytes_of_lt hd⟩

/-- Pinned tree, overflow checks on: the final addition panics (defect D3). -/
theorem c12_pinned_panics :
    feeSufficientPinned .checked 10 0 (U64 - 1) (U64 - 2) = .panic := by decide

/-- Pinned tree, overflow checks off: the sum wraps and an underpaying set is ACCEPTED. -/
theorem c12_pinned_wraps_true :
    feeSufficientPinned .wrapping 10 0 (U64 - 1) (U64 - 2) = .ok true ∧
    ¬ feeExact 10 0 (U64 - 1) (U64 - 2) := by decide

/-- Known finding K1: the exact predicate is true, the code says `false`. -/
theorem c12_mul_overflow_counterexample :
    feeExact 0 2 (U64 - 1) (2 ^ 63) ∧ feeSufficient 0 2 (U64 - 1) (2 ^ 63) = .ok false := by decide

/-! Non-vacuity -/
example : feeSufficient 1000 5000 1006000 1000000 = .ok true := by decide
example : 1000000 * 5000 < U64 ∧ 1006000 < U64 := by decide
example : feeSufficient 10 0 (U64 - 1) (U64 - 2) = .ok false := by decide

end Tramp
