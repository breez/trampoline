/-
C03 — Pay only when fully covered, for the right amount, within the held budget.

Statement: the plugin asks the node to pay only when the HTLCs it is holding unanswered for that
hash total at least the amount to deliver plus the policy fee, and the fee budget it grants never
exceeds (held total − amount to deliver). It pays the invoice's own amount for fixed-amount invoices
and exactly the sender-declared amount for amountless ones, and the HTLCs counted stay held until
the payment's fate is known.

"Held" = the listeners of the table entry = the invocations delivered since the last restart and not
yet answered (after a crash the table is empty: only replayed HTLCs count). Sums are exact naturals;
`received` saturates at 2⁶⁴−1 and is only ever a LOWER bound of the true sum, so nothing here depends
on the absence of overflow.
-/
import Tramp.Props.Sys

namespace Tramp

/-- the arguments of every pay request, against the HTLCs held at that instant -/
theorem c03_pay_args (c : Cfg) (s s' : SState) (a : SAct) (outs : List Out) (b : Nat) (am : Option Nat)
    (mf md : Nat) (hr : Reach c s) (hs : sstep c .current s a = some (s', outs)) (ho : Out.pay b am mf md ∈ outs) :
    ∃ e o, s.active = some (e, o) ∧
      -- fully covered: held total ≥ amount + base + ⌊amount·ppm/10⁶⌋
      e.info.amount + c.feeBase + e.info.amount * c.feePpm / 1000000 ≤ sumAmounts e.listeners ∧
      -- the fee budget fits into what is held beyond the amount
      mf + e.info.amount ≤ sumAmounts e.listeners ∧
      -- fixed-amount invoice: no amount parameter; amountless: exactly the declared amount
      am = (if e.info.invHasAmount then none else some e.info.amount) := by
  obtain ⟨e, o, aid, g, hact, hpc, _, ham, _⟩ := (hr.emit a hs).pay ho
  have he := hr.einv e o hact
  exact ⟨e, o, hact, Nat.le_trans (he.ready (he.past (by rw [hpc]; rfl))) he.recvLe,
    Nat.le_trans (he.budget mf (by rw [hpc]; rfl)) he.recvLe, ham⟩

/-- the HTLCs counted stay held until the payment's fate is known: a held HTLC is answered only by a
    step that answers all of them and removes the entry — while the owner is paying there is none -/
theorem c03_stay_held (c : Cfg) (s s' : SState) (a : SAct) (outs : List Out) (e : PEntry) (o : Owner) (e' : PEntry) (o' : Owner)
    (hr : Reach c s) (hs : sstep c .current s a = some (s', outs))
    (_hact : s.active = some (e, o)) (hact' : s'.active = some (e', o')) : ∀ i r, Out.resp i r ∉ outs := by
  intro i r ho
  obtain ⟨e₀, o₀, hact₀, hi, houts, hnone, hok⟩ := (hr.emit a hs).resp ho
  rw [hnone] at hact'
  cases hact'

/-- the readiness test IS the exact fee predicate (C12) on the running total -/
theorem c03_ready_is_fee_test (c : Cfg) (e : PEntry) (h : e.canReady c = true) :
    e.info.amount + c.feeBase + e.info.amount * c.feePpm / 1000000 ≤ e.received := by
  simp only [PEntry.canReady, Bool.and_eq_true] at h
  exact feeOk_need h.2

end Tramp
