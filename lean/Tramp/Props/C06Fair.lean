/-
C06, "eventually", under explicit fairness: in EVERY infinite run of the component that is fair —
  * the scheduler eventually runs a step of the owner task that stays enabled,
  * the node eventually answers a request that stays answerable (truthfully or with a write fault),
  * every pending part is eventually resolved, a running pay command eventually ends,
  * time goes on —
and in which the node does not crash, every HTLC that is ever held is answered
(`c06_fair_run_answers`). No bound on the length of the run, on what else arrives meanwhile, on the
interleaving; write faults allowed throughout.

This is the exact content of "every call is eventually answered provided the node's RPC keeps
answering": the fairness hypotheses ARE the proviso (E8), written as properties of the run; everything
else — that nothing but the timer, the pay command and pending parts is ever waited for, that no step
loops — is proved.
-/
import Tramp.Props.C06Live

namespace Tramp

/-- what a step that is not the owner's (and not a crash) preserves: the lifecycle where it is, with more listeners and
    more replies at most; the clock not back; parts that are final -/
structure Keep (s s' : SState) : Prop where
  act   : ∀ e o, s.active = some (e, o) → ∃ e' o', s'.active = some (e', o') ∧ o'.pc = o.pc ∧
            (∀ i ∈ e.listeners, i ∈ e'.listeners) ∧
            (∀ q r, lookupS o.served q = some r → lookupS o'.served q = some r)
  mono  : s.mono ≤ s'.mono
  parts : ∀ id p, findPart s.parts id = some p → ∃ p', findPart s'.parts id = some p' ∧ (p.st ≠ .pending → p' = p)

theorem keep_owner {s s' : SState} {e e' : PEntry} {o o' : Owner} (hact : s.active = some (e, o))
    (hact' : s'.active = some (e', o')) (hpc : o'.pc = o.pc) (hl : ∀ i ∈ e.listeners, i ∈ e'.listeners)
    (hs : ∀ q r, lookupS o.served q = some r → lookupS o'.served q = some r) (hm : s.mono ≤ s'.mono)
    (hp : s'.parts = s.parts) : Keep s s' :=
  ⟨fun _ _ h => by cases hact.symm.trans h; exact ⟨e', o', hact', hpc, hl, hs⟩, hm,
   fun _ p h => ⟨p, hp ▸ h, fun _ => rfl⟩⟩

/-- states that differ only in fields `Keep` does not look at -/
theorem keep_of_eq {s s' : SState} (ha : s'.active = s.active) (hm : s.mono ≤ s'.mono) (hp : s'.parts = s.parts) : Keep s s' :=
  ⟨fun e o h => ⟨e, o, ha ▸ h, rfl, fun _ hi => hi, fun _ _ h => h⟩, hm, fun _ p h => ⟨p, hp ▸ h, fun _ => rfl⟩⟩

theorem Keep.refl (s : SState) : Keep s s := keep_of_eq rfl (Nat.le_refl _) rfl

theorem Keep.trans {a b c : SState} (h1 : Keep a b) (h2 : Keep b c) : Keep a c := by
  refine ⟨?_, Nat.le_trans h1.mono h2.mono, ?_⟩
  · intro e o h
    obtain ⟨e1, o1, ha1, hpc1, hl1, hs1⟩ := h1.act e o h
    obtain ⟨e2, o2, ha2, hpc2, hl2, hs2⟩ := h2.act e1 o1 ha1
    exact ⟨e2, o2, ha2, hpc2.trans hpc1, fun i hi => hl2 i (hl1 i hi), fun q r hq => hs2 q r (hs1 q r hq)⟩
  · intro id p h
    obtain ⟨p1, hp1, hk1⟩ := h1.parts id p h
    obtain ⟨p2, hp2, hk2⟩ := h2.parts id p1 hp1
    refine ⟨p2, hp2, fun hnp => ?_⟩
    have := hk1 hnp; subst this
    exact hk2 hnp

theorem Keep.nodeServe {s s' : SState} (h : Keep s s') {q : SReq} (hq : (nodeServe s q).isSome) :
    (nodeServe s' q).isSome := by
  cases q with
  | prov pq =>
    cases pq with
    | waitPart id =>
      obtain ⟨p, hp, hst⟩ := nodeServe_waitPart.mp hq
      obtain ⟨p', hp', heq⟩ := h.parts id p hp
      exact nodeServe_waitPart.mpr ⟨p', hp', heq hst ▸ hst⟩
    | listPending | listComplete => rfl
    | pay => cases hq
  | _ => exact nodeServe_ds_isSome s' (by intro pq h; cases h)

theorem keep_step {c : Cfg} {s s' : SState} {a : SAct} {outs : List Out} (ha : a.isOwnerStep = false) (hnc : a ≠ .crash)
    (hs : sstep c .current s a = some (s', outs)) : Keep s s' := by
  have grow : ∀ {l : List (SReq × SReply)} {q' : SReq} {r' : SReply} (q : SReq) (r : SReply),
      lookupS l q = some r → lookupS (l ++ [(q', r')]) q = some r := fun q r h => by rw [lookupS_append, h]; rfl
  induction Step.of_sstep hs with
  | env he =>
    induction he with
    | tickMono dt => exact keep_of_eq rfl (Nat.le_add_right ..) rfl
    | create id =>
      exact ⟨(Keep.refl s).act, Nat.le_refl _, fun id' p h => ⟨p, by rw [findPart_append, h]; rfl, fun _ => rfl⟩⟩
    | resolve id st =>
      refine ⟨(Keep.refl s).act, Nat.le_refl _, fun id' p h => ⟨_, by rw [findPart_resolve, h]; rfl, fun hp => ?_⟩⟩
      simp [hp]
    | tickWall | block | bkServe | bkFault | bkNext | bkDone => exact keep_of_eq rfl (Nat.le_refl _) rfl
  | crash => exact absurd rfl hnc
  | arriveNew _ _ _ _ _ hact =>
    exact ⟨fun e o h => (by rw [hact] at h; cases h), Nat.le_refl _, (Keep.refl s).parts⟩
  | arrive _ _ _ _ _ hact =>
    refine keep_owner hact rfl rfl (fun i hi => ?_) (fun _ _ h => h) (Nat.le_refl _) rfl
    rw [PEntry.add_listeners, PEntry.checks_listeners]
    exact List.mem_append_left _ hi
  | payEnd _ hact | serveOwner _ hact | faultOwner _ _ hact =>
    exact keep_owner hact rfl rfl (fun _ hi => hi) grow (Nat.le_refl _) rfl
  | stay | pay | finish | finishBk | panic | timerFire | takeFail | takeReady | readParams | readHeight => cases ha

/-- once the node, a fault or the end of the pay command has answered `q`, the reply is there -/
theorem reply_after_answer {c : Cfg} {s s' : SState} {a : SAct} {outs : List Out} {q : SReq}
    (hs : sstep c .current s a = some (s', outs))
    (ha : a = .serve .owner q ∨ (∃ f, a = .fault .owner q f) ∨ ∃ r, q = .prov .pay ∧ a = .payEnd r) :
    ∃ e o r, s'.active = some (e, o) ∧ lookupS o.served q = some r := by
  rcases ha with rfl | ⟨f, rfl⟩ | ⟨r, rfl, rfl⟩
  · cases Step.of_sstep hs with
    | env he => cases he
    | serveOwner => exact let ⟨r', h⟩ := lookupS_snoc _ _ _; ⟨_, _, r', rfl, h⟩
  · cases Step.of_sstep hs with
    | env he => cases he
    | faultOwner => exact let ⟨r', h⟩ := lookupS_snoc _ _ _; ⟨_, _, r', rfl, h⟩
  · cases Step.of_sstep hs with
    | env he => cases he
    | payEnd => exact let ⟨r', h⟩ := lookupS_snoc _ _ _; ⟨_, _, r', rfl, h⟩

theorem answerable_after_resolve {c : Cfg} {s s' : SState} {outs : List Out} {id : Nat} {st : PStatus} {p : Part}
    (hs : sstep c .current s (.resolve id st) = some (s', outs)) (hp : findPart s.parts id = some p) :
    (nodeServe s' (.prov (.waitPart id))).isSome := by
  cases Step.of_sstep hs with
  | env he =>
    cases he with
    | resolve _ _ hst => exact nodeServe_waitPart.mpr (findPart_resolve_final hp hst)

/-- an infinite run of the component with the fairness of scheduler, node and clock written out -/
structure FairRun (c : Cfg) where
  st  : Nat → SState
  act : Nat → SAct
  out : Nat → List Out
  step : ∀ n, sstep c .current (st n) (act n) = some (st (n + 1), out n)
  reach0 : Reach c (st 0)
  faults : ∀ n, (act n).writeFaultOnly
  nocrash : ∀ n, act n ≠ .crash
  /-- scheduler: a step of the owner task that stays enabled is eventually taken -/
  fairOwner : ∀ n a, a.isOwnerStep = true → (∀ m, n ≤ m → (sstep c .current (st m) a).isSome = true) →
    ∃ m, n ≤ m ∧ act m = a
  /-- node: a request of the owner that stays answerable is eventually answered (possibly by a fault) -/
  fairServe : ∀ n q, (∀ m, n ≤ m → (sstep c .current (st m) (.serve .owner q)).isSome = true) →
    ∃ m, n ≤ m ∧ (act m = .serve .owner q ∨ ∃ f, act m = .fault .owner q f)
  /-- node: a pending part is eventually resolved -/
  fairPart : ∀ n id p, findPart (st n).parts id = some p → p.st = .pending → ∃ m st', n ≤ m ∧ act m = .resolve id st'
  /-- node: a running pay command eventually ends -/
  fairPay : ∀ n, (st n).payRunning = true → ∃ m r, n ≤ m ∧ act m = .payEnd r
  /-- time goes on -/
  time : ∀ n d, ∃ m, n ≤ m ∧ d ≤ (st m).mono

namespace FairRun

variable {c : Cfg} (R : FairRun c)

theorem reach (n : Nat) : Reach c (R.st n) := by
  induction n with
  | zero => exact R.reach0
  | succ n ih => exact ih.step (R.act n) (R.faults n) (R.step n)

/-! #### a lifecycle that has stopped moving

`hno`: no owner step from `N` on. -/

theorem keep_from {N : Nat} (hno : ∀ m, N ≤ m → (R.act m).isOwnerStep = false) {M m : Nat} (hNM : N ≤ M) (hMm : M ≤ m) :
    Keep (R.st M) (R.st m) := by
  obtain ⟨k, rfl⟩ := Nat.exists_eq_add_of_le hMm
  clear hMm
  induction k with
  | zero => exact Keep.refl _
  | succ k ih => exact ih.trans (keep_step (hno _ (by omega)) (R.nocrash _) (R.step _))

/-- an owner step that stays enabled contradicts the fairness of the scheduler -/
theorem owner_contra {N : Nat} (hno : ∀ m, N ≤ m → (R.act m).isOwnerStep = false) {M : Nat} (hNM : N ≤ M) {a : SAct}
    (ha : a.isOwnerStep = true) (hen : ∀ m, M ≤ m → (sstep c .current (R.st m) a).isSome = true) : False := by
  obtain ⟨m, hm, hact⟩ := R.fairOwner M a ha hen
  have := hno m (Nat.le_trans hNM hm)
  rw [hact, ha] at this
  cases this

/-- a reply to a request outstanding at `M` that is there at some later step waits to be consumed for ever: that
    contradicts the fairness of the scheduler -/
theorem deliver_contra {N : Nat} (hno : ∀ m, N ≤ m → (R.act m).isOwnerStep = false) {M m : Nat} (hNM : N ≤ M) (hMm : M ≤ m)
    {e e' : PEntry} {o o' : Owner} (hact : (R.st M).active = some (e, o)) {q : SReq} (hq : q ∈ o.pc.outstanding .current)
    (hact' : (R.st m).active = some (e', o')) {r : SReply} (hl : lookupS o'.served q = some r) : False := by
  have hNm := Nat.le_trans hNM hMm
  refine R.owner_contra hno hNm (a := .deliver .owner q) rfl fun k hk => ?_
  obtain ⟨e1, o1, ha1, hpc1, _⟩ := (R.keep_from hno hNM (Nat.le_trans hMm hk)).act e o hact
  obtain ⟨e2, o2, ha2, _, _, hs2⟩ := (R.keep_from hno hNm hk).act e' o' hact'
  cases ha1.symm.trans ha2
  rw [sstep_deliver_owner c ha1 (hpc1 ▸ hq) (hs2 q r hl)]
  rfl

/-- a request the node can answer contradicts the fairness of node and scheduler -/
theorem serve_contra {N : Nat} (hno : ∀ m, N ≤ m → (R.act m).isOwnerStep = false) {M : Nat} (hNM : N ≤ M)
    {e : PEntry} {o : Owner} (hact : (R.st M).active = some (e, o)) {q : SReq}
    (hq : q ∈ o.pc.outstanding .current) (hnp : q ≠ .prov .pay) (hres : (nodeServe (R.st M) q).isSome) : False := by
  -- as long as there is no reply the node can answer; once it is answered the reply waits for ever
  have hen : ∀ m, M ≤ m → (sstep c .current (R.st m) (.serve .owner q)).isSome = true := by
    intro m hm
    have hk := R.keep_from hno hNM hm
    obtain ⟨e', o', ha', hpc', _⟩ := hk.act e o hact
    obtain ⟨ds, as, r, hres'⟩ := nodeServe_some (hk.nodeServe hres)
    cases hnew : lookupS o'.served q with
    | some r => exact (R.deliver_contra hno hNM hm hact hq ha' hnew).elim
    | none => exact (Step.serveOwner q ha' (hpc' ▸ hq) hnew hnp hres').enabled
  obtain ⟨m, hm, ha⟩ := R.fairServe M q hen
  obtain ⟨e', o', r, ha', hl'⟩ := reply_after_answer (R.step m) (ha.imp_right .inl)
  exact R.deliver_contra hno hNM (Nat.le_succ_of_le hm) hact hq ha' hl'

/-- after the lifecycle stopped moving (no owner step from `N` on) — impossible in a fair run -/
theorem stuck_contra (N : Nat) (hno : ∀ m, N ≤ m → (R.act m).isOwnerStep = false)
    (e : PEntry) (o : Owner) (hact : (R.st N).active = some (e, o)) : False := by
  have hNN := Nat.le_refl N
  have kept : ∀ m, N ≤ m → ∃ e' o', (R.st m).active = some (e', o') ∧ o'.pc = o.pc := fun m hm =>
    let ⟨e', o', ha', hpc', _⟩ := (R.keep_from hno hNN hm).act e o hact
    ⟨e', o', ha', hpc'⟩
  cases (R.reach N).waits hact with
  | reply hq hl => exact R.deliver_contra hno hNN hNN hact hq hact hl
  | read h =>
    rcases h with hpc | ⟨mf, exp, hpc⟩
    · refine R.owner_contra hno hNN (a := .readParams) rfl fun m hm => ?_
      obtain ⟨e', o', ha', hpc'⟩ := kept m hm
      exact (Step.readParams ha' (hpc'.trans hpc)).enabled
    · refine R.owner_contra hno hNN (a := .readHeight) rfl fun m hm => ?_
      obtain ⟨e', o', ha', hpc'⟩ := kept m hm
      exact (Step.readHeight ha' (hpc'.trans hpc)).enabled
  | node hq hnp _ hres => exact R.serve_contra hno hNN hact hq hnp hres
  | @timer d hpc =>
    -- time goes on: from some point on the timer is due
    obtain ⟨M, hM, hd⟩ := R.time N d
    refine R.owner_contra hno hM (a := .timerFire) rfl fun m hm => ?_
    obtain ⟨e', o', ha', hpc'⟩ := kept m (Nat.le_trans hM hm)
    exact (Step.timerFire ha' (hpc'.trans hpc) (Nat.le_trans hd (R.keep_from hno hM hm).mono)).enabled
  | pay hpc hrun _ =>
    -- the pay command ends: its reply waits for ever
    obtain ⟨m, r, hm, ha⟩ := R.fairPay N hrun
    obtain ⟨e', o', r', ha', hl'⟩ := reply_after_answer (q := .prov .pay) (R.step m) (.inr (.inr ⟨r, rfl, ha⟩))
    exact R.deliver_contra hno hNN (Nat.le_succ_of_le hm) hact (pay_outstanding .current hpc) ha' hl'
  | @parts rem hw hne hall =>
    -- a pending part is resolved: from then on the node can answer the waitsendpay on it
    obtain ⟨id, hid⟩ := List.exists_mem_of_ne_nil _ hne
    obtain ⟨p, hfp, hp⟩ := hall id hid
    obtain ⟨m, st', hm, ha⟩ := R.fairPart N id p hfp hp
    obtain ⟨p1, hp1, _⟩ := (R.keep_from hno hNN hm).parts id p hfp
    have hres := answerable_after_resolve (by rw [← ha]; exact R.step m) hp1
    obtain ⟨e', o', ha', hpc'⟩ := kept (m + 1) (Nat.le_succ_of_le hm)
    exact R.serve_contra hno (Nat.le_succ_of_le hm) ha' (waitPart_outstanding .current (hpc' ▸ hw) hid) nofun hres

/-- up to the next step of the owner task the lifecycle is kept -/
theorem keep_until_owner {n : Nat} (hex : ∃ k, n ≤ k ∧ (R.act k).isOwnerStep = true) :
    ∃ k', n ≤ k' ∧ (R.act k').isOwnerStep = true ∧ Keep (R.st n) (R.st k') := by
  obtain ⟨k, hk, hown⟩ := hex
  obtain ⟨d, rfl⟩ := Nat.exists_eq_add_of_le hk
  clear hk
  induction d generalizing n with
  | zero => exact ⟨n, Nat.le_refl _, hown, Keep.refl _⟩
  | succ d ih =>
    cases hs : (R.act n).isOwnerStep with
    | true => exact ⟨n, Nat.le_refl _, hs, Keep.refl _⟩
    | false =>
      obtain ⟨k', hk', hown', hkeep⟩ := ih (n := n + 1) (by rw [Nat.add_right_comm]; exact hown)
      exact ⟨k', Nat.le_of_succ_le hk', hown', (keep_step hs (R.nocrash n) (R.step n)).trans hkeep⟩

/-- **C06, eventually.** In a fair run every HTLC that is held at some point is answered later. -/
theorem c06_fair_run_answers (n : Nat) (e : PEntry) (o : Owner) (hact : (R.st n).active = some (e, o))
    (i : Inv) (hi : i ∈ e.listeners) : ∃ m r, n ≤ m ∧ Out.resp i r ∈ R.out m := by
  -- induction on the measure of the lifecycle that holds `i`
  generalize hx : o.pc.meas = x
  induction x using lt2_wf.induction generalizing n e o with
  | _ x ih =>
    by_cases hex : ∃ k, n ≤ k ∧ (R.act k).isOwnerStep = true
    · -- the lifecycle is kept until its next step, which answers `i` or leaves a smaller measure
      obtain ⟨k, hk, hown, hkeep⟩ := R.keep_until_owner hex
      obtain ⟨e1, o1, ha1, hpc1, hl1, _⟩ := hkeep.act e o hact
      rcases owner_step_result (R.reach k) ha1 hown (R.step k) with ⟨_, rr, hout⟩ | ⟨e2, o2, ha2, hl2, hlt⟩
      · exact ⟨k, rr, hk, hout ▸ mem_respAll.mpr ⟨rfl, hl1 i hi⟩⟩
      · obtain ⟨m, r, hm, hr⟩ := ih _ (by rw [← hx, ← hpc1]; exact hlt) (k + 1) e2 o2 ha2 (hl2 ▸ hl1 i hi) rfl
        exact ⟨m, r, Nat.le_trans hk (Nat.le_of_succ_le hm), hr⟩
    · exact (R.stuck_contra n (fun k hk => Bool.eq_false_iff.mpr fun h => hex ⟨k, hk, h⟩) e o hact).elim

def pouts (k : Nat) : List Out := (List.range k).flatMap R.out

/-- the run up to step `n` is a finite run from the initial state -/
theorem hist (n : Nat) : ∃ acts outs0, WriteFaultsOnly acts ∧
    srunO c .current SState.init acts = some (R.st n, outs0 ++ R.pouts n) := by
  induction n with
  | zero =>
    obtain ⟨acts, hf, hr⟩ := R.reach0
    obtain ⟨outs, hr⟩ := srunO_of_srun hr
    exact ⟨acts, outs, hf, by simpa [pouts] using hr⟩
  | succ n ih =>
    obtain ⟨acts, outs0, hf, hr⟩ := ih
    refine ⟨acts ++ [R.act n], outs0, List.forall_mem_append.mpr ⟨hf, List.forall_mem_singleton.mpr (R.faults n)⟩, ?_⟩
    have := srunO_append hr (srunO_last (Step.of_sstep (R.step n)))
    simpa [pouts, List.range_succ, List.append_assoc] using this

/-- no call is answered at two different steps of the run: the id would occur twice among the answers of the finite
    history up to the later step, whose ids are pairwise distinct (`c06_at_most_once_run`) -/
theorem answered_once {m m' : Nat} (hlt : m < m') {i i' : Inv} {r r' : Resp} (hid : i'.id = i.id)
    (h1 : Out.resp i r ∈ R.out m) (h2 : Out.resp i' r' ∈ R.out m') : False := by
  obtain ⟨acts, outs0, hf, hrun⟩ := R.hist (m' + 1)
  have hnd : (respIds outs0 ++ respIds (R.pouts m') ++ respIds (R.out m')).Nodup := by
    simpa only [pouts, List.range_succ, List.flatMap_append, List.flatMap_singleton, ← List.append_assoc, respIds_append]
      using (c06_at_most_once_run c acts _ _ hf hrun).1
  have h1' : i.id ∈ respIds (R.pouts m') := mem_respIds (List.mem_flatMap.mpr ⟨m, List.mem_range.mpr hlt, h1⟩)
  exact (List.nodup_append.mp hnd).2.2 _ (List.mem_append_right _ h1') _ (mem_respIds h2) hid.symm

/-- **C06, exactly once.** In a fair run every HTLC that is held at some point is answered at exactly
    one later step, and at no other step of the whole run. -/
theorem c06_fair_run_exactly_once (n : Nat) (e : PEntry) (o : Owner) (hact : (R.st n).active = some (e, o))
    (i : Inv) (hi : i ∈ e.listeners) :
    ∃ m r, n ≤ m ∧ Out.resp i r ∈ R.out m ∧ ∀ m' i' r', i'.id = i.id → Out.resp i' r' ∈ R.out m' → m' = m := by
  obtain ⟨m, r, hm, hr⟩ := R.c06_fair_run_answers n e o hact i hi
  refine ⟨m, r, hm, hr, ?_⟩
  intro m' i' r' hid hr'
  refine Classical.byContradiction (fun hne => ?_)
  rcases Nat.lt_or_gt_of_ne hne with h | h
  · exact R.answered_once h hid.symm hr' hr
  · exact R.answered_once h hid hr hr'

end FairRun

/-! ### non-vacuity: a concrete fair run

One HTLC of an incomplete set arrives, the stored state is fetched, a minute passes, the timer
fires and the HTLC is failed back; from then on only time passes. All fairness hypotheses hold of
this run, and the theorem's conclusion is the answer given at step 4. -/

def fairDemoAct : Nat → SAct
  | 0 => .arrive ⟨0, 1000000, true⟩ 500000 1400 300 1006000
  | 1 => .serve .owner .dsList
  | 2 => .deliver .owner .dsList
  | 3 => .tickMono 60
  | 4 => .timerFire
  | _ => .tickMono 1

def nxt (s : SState) (a : SAct) : SState × List Out :=
  match sstep demoCfg .current s a with
  | some p => p
  | none => (s, [])

def fairDemoSt : Nat → SState
  | 0 => SState.init
  | n + 1 => (nxt (fairDemoSt n) (fairDemoAct n)).1

def fairDemoOut (n : Nat) : List Out := (nxt (fairDemoSt n) (fairDemoAct n)).2

theorem fairDemoAct_tail (k : Nat) : fairDemoAct (5 + k) = .tickMono 1 := by rw [Nat.add_comm]; rfl

theorem fairDemo_tail (k : Nat) : (fairDemoSt (5 + k)).active = none ∧ (fairDemoSt (5 + k)).parts = [] ∧
    (fairDemoSt (5 + k)).payRunning = false ∧ (fairDemoSt (5 + k)).mono = 60 + k := by
  induction k with
  | zero => exact ⟨rfl, rfl, rfl, rfl⟩
  | succ k ih =>
    have hs : fairDemoSt (5 + (k + 1)) = (nxt (fairDemoSt (5 + k)) (fairDemoAct (5 + k))).1 := rfl
    rw [hs, fairDemoAct_tail]
    exact ⟨ih.1, ih.2.1, ih.2.2.1, congrArg (· + 1) ih.2.2.2⟩

theorem fairDemo_node (n : Nat) : (fairDemoSt n).parts = [] ∧ (fairDemoSt n).payRunning = false :=
  match n with
  | 0 | 1 | 2 | 3 | 4 => ⟨rfl, rfl⟩
  | k + 5 => by have := fairDemo_tail k; rw [Nat.add_comm 5 k] at this; exact ⟨this.2.1, this.2.2.1⟩

theorem fairDemo_step (n : Nat) :
    sstep demoCfg .current (fairDemoSt n) (fairDemoAct n) = some (fairDemoSt (n + 1), fairDemoOut n) :=
  match n with
  | 0 | 1 | 2 | 3 | 4 | _ + 5 => rfl

def fairDemo : FairRun demoCfg where
  st := fairDemoSt
  act := fairDemoAct
  out := fairDemoOut
  step := fairDemo_step
  reach0 := ⟨[], by intro a ha; simp at ha, rfl⟩
  faults := by
    intro n
    by_cases h : 5 ≤ n
    · obtain ⟨k, rfl⟩ := Nat.exists_eq_add_of_le h
      have : fairDemoAct (5 + k) = .tickMono 1 := by
        have : 5 + k = k + 5 := by omega
        rw [this]; rfl
      rw [this]; trivial
    · have : n = 0 ∨ n = 1 ∨ n = 2 ∨ n = 3 ∨ n = 4 := by omega
      rcases this with rfl | rfl | rfl | rfl | rfl <;> trivial
  nocrash := by
    intro n
    by_cases h : 5 ≤ n
    · obtain ⟨k, rfl⟩ := Nat.exists_eq_add_of_le h
      have : fairDemoAct (5 + k) = .tickMono 1 := by
        have : 5 + k = k + 5 := by omega
        rw [this]; rfl
      rw [this]; simp
    · have : n = 0 ∨ n = 1 ∨ n = 2 ∨ n = 3 ∨ n = 4 := by omega
      rcases this with rfl | rfl | rfl | rfl | rfl <;> simp [fairDemoAct]
  fairOwner := by
    intro n a ha hen
    exfalso
    have h := hen (5 + n) (by omega)
    cases hs : sstep demoCfg .current (fairDemoSt (5 + n)) a with
    | none => rw [hs] at h; simp at h
    | some p =>
      obtain ⟨e, o, hact⟩ := ownerStep_active (s' := p.1) (outs := p.2) ha hs
      rw [(fairDemo_tail n).1] at hact; simp at hact
  fairServe := by
    intro n q hen
    exfalso
    have h := hen (5 + n) (by omega)
    have hact := (fairDemo_tail n).1
    simp only [sstep] at h
    split at h
    · simp at h
    · cases hn : nodeServe (fairDemoSt (5 + n)) q <;> simp [stepServeOwner, hact, hn] at h
  fairPart := by
    intro n id p h
    rw [(fairDemo_node n).1] at h; simp [findPart] at h
  fairPay := by
    intro n h
    rw [(fairDemo_node n).2] at h; simp at h
  time := by
    intro n d
    exact ⟨5 + (n + d), by omega, by rw [(fairDemo_tail (n + d)).2.2.2]; omega⟩

/-- in the demo run the HTLC held after step 0 is answered (at step 4, with the MPP-timeout failure) -/
example : ∃ e o, (fairDemo.st 1).active = some (e, o) ∧ ⟨0, 500000, 1400⟩ ∈ e.listeners ∧
    ∃ m r, 1 ≤ m ∧ Out.resp ⟨0, 500000, 1400⟩ r ∈ fairDemo.out m :=
  ⟨_, _, rfl, by decide, fairDemo.c06_fair_run_answers 1 _ _ rfl _ (by decide)⟩

example : fairDemo.out 4 = [Out.resp ⟨0, 500000, 1400⟩ (.fail .ttf)] := rfl

end Tramp
