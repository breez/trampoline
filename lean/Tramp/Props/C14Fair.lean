/-
C06 over the whole plugin (C14 ∧ C06): in every fair infinite run of the product of all payment
hashes — steps of any hashes interleaved in any way, new HTLCs of any hash arriving at any time,
write faults anywhere, no crash — every HTLC of every hash that is held at some point is answered
later (`c14_fair_run_answers`).

Proof: the projection of the run on hash `h` is a fair run of component `h` in the sense of
`FairRun` — a step of another hash leaves component `h` as it is (`gstep_proj`), which is the
component's own step "no time passes" — and `FairRun.c06_fair_run_answers` applies. The fairness
hypotheses are per hash: nothing is assumed about how the scheduler or the node divide their
attention between payments, only that none is starved for ever.
-/
import Tramp.Props.C06Fair
import Tramp.Props.C14Live

namespace Tramp

/-- an infinite run of the whole plugin, fair to every payment hash -/
structure GFairRun (c : Cfg) where
  st  : Nat → GState
  act : Nat → GAct
  out : Nat → List (Nat × Out)
  step : ∀ n, gstep c .current (st n) (act n) = some (st (n + 1), out n)
  reach0 : GReach c (st 0)
  faults : ∀ n, (act n).writeFaultOnly
  nocrash : ∀ n, act n ≠ .crash ∧ ∀ h, act n ≠ .comp h .crash
  fairOwner : ∀ h n a, a.isOwnerStep = true →
    (∀ m, n ≤ m → (sstep c .current ((st m).comps h) a).isSome = true) → ∃ m, n ≤ m ∧ act m = .comp h a
  fairServe : ∀ h n q, (∀ m, n ≤ m → (sstep c .current ((st m).comps h) (.serve .owner q)).isSome = true) →
    ∃ m, n ≤ m ∧ (act m = .comp h (.serve .owner q) ∨ ∃ f, act m = .comp h (.fault .owner q f))
  fairPart : ∀ h n id p, findPart ((st n).comps h).parts id = some p → p.st = .pending →
    ∃ m st', n ≤ m ∧ act m = .comp h (.resolve id st')
  fairPay : ∀ h n, ((st n).comps h).payRunning = true → ∃ m r, n ≤ m ∧ act m = .comp h (.payEnd r)
  time : ∀ h n d, ∃ m, n ≤ m ∧ d ≤ ((st m).comps h).mono

namespace GFairRun

variable {c : Cfg} (G : GFairRun c)

def cout (h : Nat) (n : Nat) : List Out :=
  match sstep c .current ((G.st n).comps h) (projAct h (G.act n)) with
  | some (_, o) => o
  | none => []

theorem cstep (h n : Nat) :
    sstep c .current ((G.st n).comps h) (projAct h (G.act n)) = some ((G.st (n + 1)).comps h, G.cout h n) := by
  obtain ⟨os, hs, _⟩ := gstep_proj (G.step n) h
  rw [cout, hs]

theorem cout_iff (h n : Nat) (o : Out) : o ∈ G.cout h n ↔ (h, o) ∈ G.out n := by
  obtain ⟨os, hs, hm⟩ := gstep_proj (G.step n) h
  rw [cout, hs]
  exact (hm o).symm

theorem projAct_act {h n : Nat} {a : SAct} (ha : G.act n = .comp h a) : projAct h (G.act n) = a := by
  rw [ha, projAct_comp]

/-- the projection on hash `h` is a fair run of component `h` -/
def proj (h : Nat) : FairRun c where
  st := fun n => (G.st n).comps h
  act := fun n => projAct h (G.act n)
  out := G.cout h
  step := G.cstep h
  reach0 := G.reach0.comp h
  faults := fun n => projAct_writeFaultOnly (G.faults n) h
  nocrash := fun n => projAct_ne_crash (G.nocrash n).1 (G.nocrash n).2
  fairOwner := fun n a ha hen =>
    have ⟨m, hm, hact⟩ := G.fairOwner h n a ha hen
    ⟨m, hm, G.projAct_act hact⟩
  fairServe := fun n q hen =>
    have ⟨m, hm, hact⟩ := G.fairServe h n q hen
    ⟨m, hm, hact.imp G.projAct_act fun ⟨f, hf⟩ => ⟨f, G.projAct_act hf⟩⟩
  fairPart := fun n id p hf hp =>
    have ⟨m, st', hm, hact⟩ := G.fairPart h n id p hf hp
    ⟨m, st', hm, G.projAct_act hact⟩
  fairPay := fun n hr =>
    have ⟨m, r, hm, hact⟩ := G.fairPay h n hr
    ⟨m, r, hm, G.projAct_act hact⟩
  time := G.time h

/-- **C06 for the whole plugin.** In a run that is fair to every payment hash, every HTLC of every
    hash that is held at some point is answered later. -/
theorem c14_fair_run_answers (h n : Nat) (e : PEntry) (o : Owner)
    (hact : ((G.st n).comps h).active = some (e, o)) (i : Inv) (hi : i ∈ e.listeners) :
    ∃ m r, n ≤ m ∧ (h, Out.resp i r) ∈ G.out m := by
  obtain ⟨m, r, hm, ho⟩ := (G.proj h).c06_fair_run_answers n e o hact i hi
  exact ⟨m, r, hm, (G.cout_iff h m _).mp ho⟩

/-- … and at exactly one step of the whole run. -/
theorem c14_fair_run_exactly_once (h n : Nat) (e : PEntry) (o : Owner)
    (hact : ((G.st n).comps h).active = some (e, o)) (i : Inv) (hi : i ∈ e.listeners) :
    ∃ m r, n ≤ m ∧ (h, Out.resp i r) ∈ G.out m ∧
      ∀ m' i' r', i'.id = i.id → (h, Out.resp i' r') ∈ G.out m' → m' = m := by
  obtain ⟨m, r, hm, ho, huniq⟩ := (G.proj h).c06_fair_run_exactly_once n e o hact i hi
  exact ⟨m, r, hm, (G.cout_iff h m _).mp ho, fun m' i' r' hid ho' => huniq m' i' r' hid ((G.cout_iff h m' _).mpr ho')⟩

end GFairRun

/-! ### the hypotheses are consistent: the run of the whole plugin in which only time passes
(a run of one component in which an HTLC is held and answered is `fairDemo`; `demoGRun` below embeds it in a run of
the whole plugin) -/

def idleAt (n : Nat) : SState := { SState.init with mono := n }

def idleRun : GFairRun demoCfg where
  st := fun n => { comps := fun _ => idleAt n }
  act := fun _ => .tickMono 1
  out := fun _ => []
  step := by intro n; rfl
  reach0 := ⟨[], [], by intro a ha; simp at ha, rfl⟩
  faults := by intro n; trivial
  nocrash := by intro n; exact ⟨by simp, by intro h; simp⟩
  fairOwner := by
    intro h n a ha hen
    exfalso
    have h0 := hen n (Nat.le_refl _)
    cases hs : sstep demoCfg .current (idleAt n) a with
    | none => simp only at h0; rw [hs] at h0; simp at h0
    | some p =>
      obtain ⟨e, o, hact⟩ := ownerStep_active (s' := p.1) (outs := p.2) ha hs
      simp [idleAt, SState.init] at hact
  fairServe := by
    intro h n q hen
    exfalso
    have h0 := hen n (Nat.le_refl _)
    simp only [sstep] at h0
    split at h0
    · simp at h0
    · cases hn : nodeServe (idleAt n) q <;> simp [stepServeOwner, idleAt, SState.init, hn] at h0
  fairPart := by intro h n id p hf; simp [idleAt, SState.init, findPart] at hf
  fairPay := by intro h n hr; simp [idleAt, SState.init] at hr
  time := by intro h n d; exact ⟨n + d, by omega, by simp [idleAt]⟩

/-! ### a fair run of the whole plugin in which an HTLC is held and answered

Hash 1 runs `fairDemo` (arrival of an incomplete set, fetch, a minute passes, timeout, failed back)
while every other hash stays untouched; the ticks are the plugin-wide ones. -/

def demoOtherMono (n : Nat) : Nat := if n ≤ 3 then 0 else if n = 4 then 60 else 60 + (n - 5)

def demoG (n : Nat) : GState := { comps := fun k => if k = 1 then fairDemoSt n else { SState.init with mono := demoOtherMono n } }

def demoGAct : Nat → GAct
  | 0 => .comp 1 (fairDemoAct 0)
  | 1 => .comp 1 (fairDemoAct 1)
  | 2 => .comp 1 (fairDemoAct 2)
  | 3 => .tickMono 60
  | 4 => .comp 1 (fairDemoAct 4)
  | _ => .tickMono 1

def demoGOut (n : Nat) : List (Nat × Out) := (fairDemoOut n).map (fun o => (1, o))

theorem demoOtherMono_tail (k : Nat) : demoOtherMono (5 + k) = 60 + k := by
  unfold demoOtherMono; rw [if_neg (by omega), if_neg (by omega)]; omega

theorem demoGAct_tail (k : Nat) : demoGAct (5 + k) = .tickMono 1 := by rw [Nat.add_comm]; rfl

theorem demoG_other (n k : Nat) (hk : k ≠ 1) : (demoG n).comps k = { SState.init with mono := demoOtherMono n } :=
  if_neg hk

theorem demoG_one (n : Nat) : (demoG n).comps 1 = fairDemoSt n := rfl

theorem demoG_comp_step (n : Nat) (a : SAct) (ha : fairDemoAct n = a) (hm : demoOtherMono (n + 1) = demoOtherMono n) :
    gstep demoCfg .current (demoG n) (.comp 1 a) = some (demoG (n + 1), demoGOut n) := by
  rw [gstep_comp, demoG_one, ← ha, fairDemo_step n]
  refine congrArg (fun g => some (g, demoGOut n)) (gstate_ext fun k => ?_)
  by_cases hk : k = 1
  · rw [hk, demoG_one]; exact setComp_same (demoG n).comps 1 _
  · rw [demoG_other _ _ hk, hm, ← demoG_other n k hk]; exact setComp_other hk

theorem demoG_tick_step (n dt : Nat) (ha : fairDemoAct n = .tickMono dt) (hm : demoOtherMono (n + 1) = demoOtherMono n + dt) :
    gstep demoCfg .current (demoG n) (.tickMono dt) = some (demoG (n + 1), demoGOut n) := by
  have hs := fairDemo_step n
  rw [ha] at hs
  obtain ⟨h1, h2⟩ := Prod.mk.inj (Option.some.inj hs)
  rw [demoGOut, ← h2]
  refine congrArg (fun g => some (g, [])) (gstate_ext fun k => ?_)
  by_cases hk : k = 1
  · rw [hk]; exact h1
  · show { (demoG n).comps k with mono := ((demoG n).comps k).mono + dt } = _
    rw [demoG_other n k hk, demoG_other _ k hk, hm]

theorem demoG_step (n : Nat) : gstep demoCfg .current (demoG n) (demoGAct n) = some (demoG (n + 1), demoGOut n) :=
  match n with
  | 0 => demoG_comp_step 0 _ rfl rfl
  | 1 => demoG_comp_step 1 _ rfl rfl
  | 2 => demoG_comp_step 2 _ rfl rfl
  | 3 => demoG_tick_step 3 60 rfl rfl
  | 4 => demoG_comp_step 4 _ rfl rfl
  | k + 5 => demoG_tick_step (k + 5) 1 rfl (by
      rw [Nat.add_comm k 5, Nat.add_assoc, demoOtherMono_tail, demoOtherMono_tail, Nat.add_assoc])

def demoGRun : GFairRun demoCfg where
  st := demoG
  act := demoGAct
  out := demoGOut
  step := demoG_step
  reach0 := ⟨[], [], by intro a ha; simp at ha, by
    show some (ginit, []) = some (demoG 0, [])
    congr 1; congr 1
    apply gstate_ext; intro k
    by_cases hk : k = 1
    · subst hk; rfl
    · show SState.init = (demoG 0).comps k
      rw [demoG_other 0 k hk]; rfl⟩
  faults := by
    intro n
    by_cases h : 5 ≤ n
    · obtain ⟨k, rfl⟩ := Nat.exists_eq_add_of_le h; rw [demoGAct_tail]; trivial
    · have : n = 0 ∨ n = 1 ∨ n = 2 ∨ n = 3 ∨ n = 4 := by omega
      rcases this with rfl | rfl | rfl | rfl | rfl <;> trivial
  nocrash := by
    intro n
    by_cases h : 5 ≤ n
    · obtain ⟨k, rfl⟩ := Nat.exists_eq_add_of_le h; rw [demoGAct_tail]; exact ⟨(fun hh => by cases hh), (fun h hh => by cases hh)⟩
    · have : n = 0 ∨ n = 1 ∨ n = 2 ∨ n = 3 ∨ n = 4 := by omega
      rcases this with rfl | rfl | rfl | rfl | rfl <;>
        exact ⟨(fun hh => by first | cases hh | simp [demoGAct, fairDemoAct] at hh), (fun h hh => by first | cases hh | simp [demoGAct, fairDemoAct] at hh)⟩
  fairOwner := by
    intro h n a ha hen
    exfalso
    have h0 := hen (5 + n) (by omega)
    have hidle : ((demoG (5 + n)).comps h).active = none := by
      by_cases hk : h = 1
      · subst hk; rw [demoG_one]; exact (fairDemo_tail n).1
      · rw [demoG_other _ _ hk]; rfl
    cases hs : sstep demoCfg .current ((demoG (5 + n)).comps h) a with
    | none => rw [hs] at h0; simp at h0
    | some p =>
      obtain ⟨e, o, hact⟩ := ownerStep_active (s' := p.1) (outs := p.2) ha hs
      rw [hidle] at hact; simp at hact
  fairServe := by
    intro h n q hen
    exfalso
    have h0 := hen (5 + n) (by omega)
    have hidle : ((demoG (5 + n)).comps h).active = none := by
      by_cases hk : h = 1
      · subst hk; rw [demoG_one]; exact (fairDemo_tail n).1
      · rw [demoG_other _ _ hk]; rfl
    simp only [sstep] at h0
    split at h0
    · simp at h0
    · cases hn : nodeServe ((demoG (5 + n)).comps h) q <;> simp [stepServeOwner, hidle, hn] at h0
  fairPart := by
    intro h n id p hf
    by_cases hk : h = 1
    · subst hk; rw [demoG_one, (fairDemo_node n).1] at hf; simp [findPart] at hf
    · rw [demoG_other _ _ hk] at hf; simp [SState.init, findPart] at hf
  fairPay := by
    intro h n hr
    by_cases hk : h = 1
    · subst hk; rw [demoG_one, (fairDemo_node n).2] at hr; simp at hr
    · rw [demoG_other _ _ hk] at hr; simp [SState.init] at hr
  time := by
    intro h n d
    refine ⟨5 + (n + d), by omega, ?_⟩
    by_cases hk : h = 1
    · subst hk; rw [demoG_one, (fairDemo_tail (n + d)).2.2.2]; omega
    · rw [demoG_other _ _ hk]; show d ≤ demoOtherMono (5 + (n + d)); rw [demoOtherMono_tail]; omega

/-- the HTLC of hash 1 held after step 0 is answered, at exactly one step (step 4) -/
example : ∃ m r, 1 ≤ m ∧ (1, Out.resp ⟨0, 500000, 1400⟩ r) ∈ demoGRun.out m ∧
    ∀ m' i' r', i'.id = 0 → (1, Out.resp i' r') ∈ demoGRun.out m' → m' = m :=
  demoGRun.c14_fair_run_exactly_once 1 1 _ _ (by show (fairDemoSt 1).active = some _; rfl) ⟨0, 500000, 1400⟩ (by decide)

end Tramp
