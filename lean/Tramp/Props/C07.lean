/-
C07 — All HTLCs aggregated into one payment receive the same resolution.

Statement: all HTLCs the plugin is holding for the same payment hash when that payment is decided
receive the identical response: the same preimage, or the same failure. If an HTLC of a
still-incomplete set triggers a rejection (conflicting invoice or amount, expiry too low, declared
total too low), the whole set is failed back together and no outgoing payment is started for it.
-/
import Tramp.Props.Sys

namespace Tramp

/-- whenever any held HTLC is answered, ALL HTLCs held for the hash are answered in that same step,
    with one and the same response, and the table entry is gone -/
theorem c07_same_response (c : Cfg) (s s' : SState) (a : SAct) (outs : List Out) (i : Inv) (r : Resp)
    (hr : Reach c s) (hs : sstep c .current s a = some (s', outs)) (ho : Out.resp i r ∈ outs) :
    ∃ e o, s.active = some (e, o) ∧ outs = e.listeners.map (fun j => Out.resp j r) ∧ s'.active = none := by
  obtain ⟨e, o, hact, _, houts, hnone, _⟩ := (hr.emit a hs).resp ho
  exact ⟨e, o, hact, houts, hnone⟩

/-- a rejection raised while the set is incomplete (`fail()` called before readiness was ever
    signalled) is permanent for this table entry: readiness is never signalled afterwards… -/
theorem c07_reject_sticks (c : Cfg) (e : PEntry) (i : Inv) (info : SInfo) (relExp : Int) (total : Nat)
    (h : e.isFailReq = true ∧ e.readySent = false) :
    ((e.checks c info relExp total).add c i).isFailReq = true ∧ ((e.checks c info relExp total).add c i).readySent = false :=
  PEntry.add_rejected c i ⟨by simp [PEntry.checks_isFailReq, h.1], (PEntry.checks_readySent ..).trans h.2⟩

/-- …and a pay request is issued only by an owner whose entry has signalled readiness: so a set that
    was rejected while incomplete is never paid; by `c07_same_response` it is failed back together. -/
theorem c07_reject_no_pay (c : Cfg) (s s' : SState) (a : SAct) (outs : List Out) (b : Nat) (am : Option Nat)
    (mf md : Nat) (hr : Reach c s) (hs : sstep c .current s a = some (s', outs)) (ho : Out.pay b am mf md ∈ outs) :
    ∃ e o, s.active = some (e, o) ∧ e.readySent = true := by
  obtain ⟨e, o, _, _, hact, hpc, _⟩ := (hr.emit a hs).pay ho
  exact ⟨e, o, hact, (hr.einv e o hact).past (by rw [hpc]; rfl)⟩

/-- the first rejection fixes the failure everybody gets: the fail channel holds at most one message -/
theorem c07_single_shot (e : PEntry) (r1 r2 : Resp) : ((e.fail r1).fail r2) = e.fail r1 :=
  PEntry.fail_of_rejected (e.fail_isFailReq r1) r2

end Tramp
