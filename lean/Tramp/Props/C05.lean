/-
C05 — At most one outgoing attempt live per hash; a paid invoice is never paid again.

Statement: for a given payment hash the plugin never issues a pay request while an earlier outgoing
attempt for that hash still has pending parts or has completed, including after a restart that
interrupted the earlier attempt. Once the invoice has been paid, later HTLCs for it are settled from
the known preimage without paying again.
-/
import Tramp.Props.Sys
import Tramp.Props.C02

namespace Tramp

/-- a pay request is issued only in a state where no part of the hash is pending or complete and no
    pay command runs — for every interleaving (bookkeepers of the previous lifecycle included), every
    crash point, every reachable stored history -/
theorem c05_pay_only_when_quiet (c : Cfg) (s s' : SState) (a : SAct) (outs : List Out) (b : Nat) (am : Option Nat)
    (mf md : Nat) (hr : Reach c s) (hs : sstep c .current s a = some (s', outs)) (ho : Out.pay b am mf md ∈ outs) :
    partsQuiet s.parts ∧ s.payRunning = false := by
  obtain ⟨e, o, aid, g, hact, hpc, hb, ham, hq, hpm, hrun⟩ := (hr.emit a hs).pay ho
  exact hq

/-- once a part has completed, in every later state no step issues a pay request and every answer
    given to a held HTLC is a settlement with the preimage of a complete part -/
theorem c05_never_again (c : Cfg) (s0 s s' : SState) (later : List SAct) (a : SAct) (outs : List Out) (x : Nat)
    (hr0 : Reach c s0) (hpaid : HasComplete s0.parts x) (hf : WriteFaultsOnly later)
    (hlater : srun c .current s0 later = some s) (hs : sstep c .current s a = some (s', outs)) :
    (∀ b am mf md, Out.pay b am mf md ∉ outs) ∧
    (∀ i r, Out.resp i r ∈ outs → ∃ pre, r = .resolve pre ∧ HasComplete s.parts pre) := by
  have hr : Reach c s := hr0.extend later hf hlater
  have hcomp : HasComplete s.parts x := hasComplete_run c later s0 s x hlater hpaid
  have hlive : ¬ partsQuiet s.parts := by
    intro hq
    obtain ⟨p, hp, hst⟩ := hcomp
    cases (hq p hp).symm.trans hst
  refine ⟨?_, ?_⟩
  · intro b am mf md ho
    exact hlive (c05_pay_only_when_quiet c s s' a outs b am mf md hr hs ho).1
  · intro i r ho
    exact c02_live_means_held_or_settled c s s' a outs i r hr hlive hs ho

end Tramp
