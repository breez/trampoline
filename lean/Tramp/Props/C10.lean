/-
C10 — Trampoline parameters come only from a signed invoice with unambiguous amount.

Statement: an HTLC is treated as a trampoline payment only if its metadata carries a BOLT11 invoice
that parses, has a valid signature and whose payment hash equals the HTLC's. The amount to deliver
is the invoice amount when present (a well-formed accompanying amount field must agree), otherwise
exactly the sender-declared amount, and the payee is the key the invoice's signature verifies
against; if the local node is the last hop of a route hint and that is disallowed by configuration,
the HTLC is failed, not paid.

All theorems quantify over EVERY request and EVERY `parse` function (lightning-invoice is a
parameter: nothing is assumed about it; that the recovered payee is the key the signature verifies
against is a fact about that crate, checked by the suite's oracle, not proved).
-/
import Tramp.Proofs.Classify
import Tramp.Props.C18

namespace Tramp

/-- the conditions under which a request is a trampoline request, spelled out -/
def IsTrampoline (parse : Bytes → Option InvoiceView) (allow : Bool) (req : Req) (i : Info) (f : Nat) : Prop :=
  req.onion.hasScid = false ∧
  ∃ mdE md invE v a,
    getEntry req.onion.payload TLV_PAYMENT_METADATA = some mdE ∧
    fromBytes mdE.value = .ok md ∧
    getEntry md TLV_TRAMPOLINE_INVOICE = some invE ∧
    parse invE.value = some v ∧
    v.sigOk = true ∧
    v.hash = req.htlc.hash ∧
    reconcileAmount v.amount (tlvAmount md) = some a ∧
    i = { bolt11 := invE.value, amount := a, inv := v } ∧
    ¬ (v.selfLastHop = true ∧ allow = false) ∧
    req.onion.forwardMsat = some f

/-- C10, main statement: `classify` says "trampoline" EXACTLY under the listed conditions. -/
theorem c10_classify_iff (parse : Bytes → Option InvoiceView) (allow : Bool) (req : Req) (i : Info) (f : Nat) :
    classify parse allow req = .tramp i f ↔ IsTrampoline parse allow req i f := by
  constructor
  · intro h
    rcases classify_cases parse allow req with hd | ⟨i', hsc, hex, ⟨hc, _⟩ | ⟨f', hc, hf, hself⟩⟩
    · obtain ⟨p, hp⟩ := defaultResponse_cont req.onion.payload
      rw [hd, hp] at h; cases h
    · rw [hc] at h; cases h
    · rw [hc] at h; cases h
      obtain ⟨mdE, md, invE, v, a, h1, h2, h3, h4, hs, hh, h5, hi⟩ := (extract_info_iff parse req i).mp hex
      exact ⟨hsc, mdE, md, invE, v, a, h1, h2, h3, h4, hs, hh, h5, hi, by subst hi; exact hself, hf⟩
  · rintro ⟨hsc, mdE, md, invE, v, a, h1, h2, h3, h4, hs, hh, h5, hi, hself, hf⟩
    have hex := (extract_info_iff parse req i).mpr ⟨mdE, md, invE, v, a, h1, h2, h3, h4, hs, hh, h5, hi⟩
    subst hi
    have hself' : ¬ ((v.selfLastHop && !allow) = true) := by
      intro hc; apply hself; simpa using hc
    simp [classify, classifyWith, hsc, hex, hf, hself']

/-- the invoice is signed and is FOR THIS HTLC's hash (feeds C01) -/
theorem c10_hash_eq (parse : Bytes → Option InvoiceView) (allow : Bool) (req : Req) (i : Info) (f : Nat)
    (h : classify parse allow req = .tramp i f) : i.inv.hash = req.htlc.hash ∧ i.inv.sigOk = true := by
  obtain ⟨_, mdE, md, invE, v, a, _, _, _, _, hs, hh, _, hi, _, _⟩ := (c10_classify_iff parse allow req i f).mp h
  subst hi; exact ⟨hh, hs⟩

/-- the bolt11 handed on, the payee and every other attribute are those of the very invoice that
    `parse` accepted: nothing is taken from anywhere else -/
theorem c10_invoice_source (parse : Bytes → Option InvoiceView) (allow : Bool) (req : Req) (i : Info) (f : Nat)
    (h : classify parse allow req = .tramp i f) : parse i.bolt11 = some i.inv := by
  obtain ⟨_, mdE, md, invE, v, a, _, _, _, h4, _, _, _, hi, _, _⟩ := (c10_classify_iff parse allow req i f).mp h
  subst hi; exact h4

/-- amount rule, as a function of the invoice amount and the (well-formed) amount record -/
theorem c10_amount_rule (invAmount tlv : Option Nat) (a : Nat) (h : reconcileAmount invAmount tlv = some a) :
    (∀ x, invAmount = some x → a = x) ∧
    (∀ x t, invAmount = some x → tlv = some t → x = t) ∧
    (invAmount = none → tlv = some a) := by
  revert h
  fun_cases reconcileAmount invAmount tlv with
  | case1 t =>
    intro h
    cases h
    exact ⟨fun _ hy => Option.some.inj hy,
      fun _ _ hy ht => (Option.some.inj hy).symm.trans (Option.some.inj ht), nofun⟩
  | case2 => nofun
  | case3 x =>
    intro h
    cases h
    exact ⟨fun _ hy => Option.some.inj hy, nofun, nofun⟩
  | case4 t =>
    intro h
    cases h
    exact ⟨nofun, nofun, fun _ => rfl⟩
  | case5 => nofun

/-- the amount record is `some` only for a field of at most 8 bytes, and then it is its big-endian value -/
theorem c10_tlvAmount_wellformed (md : List Entry) (t : Nat) (h : tlvAmount md = some t) :
    ∃ e, getEntry md TLV_TRAMPOLINE_AMOUNT = some e ∧ e.value.length ≤ 8 ∧ t = beVal e.value := by
  unfold tlvAmount at h
  split at h
  · cases h
  · rename_i e he
    refine ⟨e, he, ?_⟩
    by_cases hl : e.value.length ≤ 8
    · rw [c18_tu64_value e.value hl] at h
      cases h
      exact ⟨hl, rfl⟩
    · rw [c18_tu64_reject e.value (Nat.lt_of_not_le hl)] at h
      cases h

/-- C10 amount clause, on classified requests -/
theorem c10_amount (parse : Bytes → Option InvoiceView) (allow : Bool) (req : Req) (i : Info) (f : Nat)
    (h : classify parse allow req = .tramp i f) :
    ∃ md, (∀ x, i.inv.amount = some x → i.amount = x) ∧
          (∀ x t, i.inv.amount = some x → tlvAmount md = some t → x = t) ∧
          (i.inv.amount = none → tlvAmount md = some i.amount) := by
  obtain ⟨_, mdE, md, invE, v, a, _, _, _, _, _, _, h5, hi, _, _⟩ := (c10_classify_iff parse allow req i f).mp h
  subst hi
  exact ⟨md, c10_amount_rule _ _ _ h5⟩

/-- self-route-hint clause: whenever every other condition is met but the local node is the last
    hop of a hint and that is disallowed, the answer is `fail temporary_node_failure` — never
    `trampoline` (so nothing is stored and no RPC is made: see C13/`c13_no_effect`). -/
theorem c10_selfhint_fails (parse : Bytes → Option InvoiceView) (req : Req) (i : Info)
    (hsc : req.onion.hasScid = false) (hex : extractWith true parse req = .info i)
    (hself : i.inv.selfLastHop = true) : classify parse false req = .failTNF := by
  unfold classify classifyWith
  simp [hsc, hex, hself]

/-- Pinned tree (defect D1): without the hash comparison an HTLC of hash `[1]` carrying a signed
    invoice for hash `[0]` is classified as trampoline. -/
theorem c10_pinned_counterexample :
    ∃ parse req i f, classifyPinned parse true req = .tramp i f ∧ i.inv.hash ≠ req.htlc.hash ∧
      classify parse true req = .cont none := by
  refine ⟨fun _ => some ⟨[0], some 5, true, false, 7⟩,
    { onion := { payload := [⟨16, [0xfd, 0x80, 0xe9, 0x01, 0x41]⟩], hasScid := false, forwardMsat := some 9, totalMsat := none },
      htlc := { amountMsat := 9, cltvExpiry := 0, cltvRel := 0, hash := [1] } },
    { bolt11 := [0x41], amount := 5, inv := ⟨[0], some 5, true, false, 7⟩ }, 9, ?_, ?_, ?_⟩
  · rfl
  · decide
  · rfl

/-! Non-vacuity: a concrete request that IS a trampoline request -/
example : classify (fun _ => some ⟨[1], some 5, true, false, 7⟩) true
    { onion := { payload := [⟨16, [0xfd, 0x80, 0xe9, 0x01, 0x41]⟩], hasScid := false, forwardMsat := some 9, totalMsat := none },
      htlc := { amountMsat := 9, cltvExpiry := 0, cltvRel := 0, hash := [1] } }
    = .tramp { bolt11 := [0x41], amount := 5, inv := ⟨[1], some 5, true, false, 7⟩ } 9 := by rfl

end Tramp
