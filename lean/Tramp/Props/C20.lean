/-
C20 — Chain height never decreases and catches up within one poll interval.

Statement: the height the plugin uses equals the maximum of all heights it has been told so far
(startup query, periodic poll, block notifications) and therefore never decreases under any
interleaving of those sources. If notifications are lost, the height still catches up with the node
within one poll interval.

"Within one poll interval" is proved as: (a) once started, in EVERY reachable state the loop is
polling or its timer is armed with a deadline at most 60 s ahead — failed polls re-arm it
(`c20_timer_armed`), (b) a timer whose deadline has passed has turned into a poll (`c20_timer_fires`),
(c) consuming a successful poll reply lifts the register to at least the node's height at the
moment the node answered (`c20_poll_catches_up`). That tokio fires a due timer promptly and the RPC
is answered is the runtime's part (E8), observed by suite `height` under virtual time.
-/
import Tramp.Proofs.Height

namespace Tramp

def maxList (xs : List Nat) : Nat := xs.foldl max 0

/-- C20: after ANY sequence of events the height in use is the maximum of all heights told. -/
theorem c20_max (n0 : Nat) (acts : List HAct) (s : HSt) (h : hrun (HSt.init n0) acts = some s) :
    s.height = maxList s.told := by
  obtain ⟨news, ht, hh⟩ := hrun_register h
  rw [hh, ht]; rfl

/-- the register never decreases, whatever the event -/
theorem c20_monotone (s s' : HSt) (a : HAct) (h : hstep s a = some s') : s.height ≤ s'.height := by
  obtain ⟨news, _, hh⟩ := (hstep_effect h).1
  rw [hh]; exact (foldl_max_le.mp (Nat.le_refl _)).1

/-- … and over every execution, from every state (not only from `init`): no sequence of
    chain moves, stale/repeated notifications, failed polls and timer firings lowers the register. -/
theorem c20_monotone_run (acts : List HAct) (s s' : HSt) (h : hrun s acts = some s') :
    s.height ≤ s'.height := by
  obtain ⟨news, _, hh⟩ := hrun_register h
  rw [hh]; exact (foldl_max_le.mp (Nat.le_refl _)).1

/-- every height the plugin was ever told is a lower bound of the register, at every later time -/
theorem c20_told_le (n0 : Nat) (acts : List HAct) (s : HSt) (h : hrun (HSt.init n0) acts = some s)
    (n : Nat) (hn : n ∈ s.told) : n ≤ s.height := by
  rw [c20_max n0 acts s h]
  exact (foldl_max_le.mp (Nat.le_refl _)).2 n hn

/-- consuming a successful poll reply that carried `n` leaves the register at least `n` -/
theorem c20_poll_catches_up (s s' : HSt) (n : Nat) (hs : s.served = some (some n))
    (h : hstep s .deliver = some s') : n ≤ s'.height := by
  have hn : ∀ {t : HSt}, t.height = updateHeight s.height n → n ≤ t.height :=
    fun ht => by rw [ht, updateHeight_eq_max]; exact Nat.le_max_right _ _
  simp only [hstep, hs] at h
  cases hp : s.phase with
  | starting | polling => rw [hp] at h; cases h; exact hn rfl
  | sleeping | dead => rw [hp] at h; cases h

/-- and the reply served is the node's height at that instant -/
theorem c20_serve_truthful (s s' : HSt) (h : hstep s .serve = some s') : s'.served = some (some s.nodeH) := by
  simp only [hstep] at h
  split at h
  · cases h; rfl
  · cases h

def LoopAlive (s : HSt) : Prop :=
  match s.phase with
  | .starting => True
  | .sleeping d => d ≤ s.now + POLL_INTERVAL
  | .polling => True
  | .dead => False

theorem LoopAlive.mono {s s' : HSt} (hp : s'.phase = s.phase) (hn : s.now ≤ s'.now) (h : LoopAlive s) :
    LoopAlive s' := by
  unfold LoopAlive at *
  rw [hp]
  generalize s.phase = p at h ⊢
  cases p with
  | sleeping d => exact Nat.le_trans h (Nat.add_le_add_right hn _)
  | _ => exact h

/-- Once started the loop never dies and its timer is never armed further than one interval ahead,
    whatever fails: a failed poll re-arms the timer. -/
theorem c20_timer_armed (s s' : HSt) (a : HAct) (h : hstep s a = some s') (hinv : LoopAlive s)
    (hstart : s.phase ≠ .starting) : LoopAlive s' ∧ s'.phase ≠ .starting := by
  rcases (hstep_effect h).2 with ⟨hp, hn⟩ | ⟨dt, hn, hp | ⟨hp, _⟩⟩ | ⟨hp, _⟩ | ⟨hp, hn⟩
  · exact ⟨hinv.mono hp (Nat.le_of_eq hn.symm), hp ▸ hstart⟩        -- the loop is not touched
  · simp [LoopAlive, hp]                                             -- time passes and the poll starts
  · exact ⟨hinv.mono hp (hn ▸ Nat.le_add_right _ _), hp ▸ hstart⟩    -- time passes within the phase
  · exact absurd hp hstart                                           -- the startup query fails
  · simp [LoopAlive, hp, hn]                                         -- a reply is consumed: the timer is armed

/-- a due timer has turned into a poll: no reachable state sleeps past its deadline -/
theorem c20_timer_fires (s s' : HSt) (a : HAct) (h : hstep s a = some s')
    (hinv : ∀ d, s.phase = .sleeping d → s.now < d) : ∀ d, s'.phase = .sleeping d → s'.now < d := by
  intro d hd
  rcases (hstep_effect h).2 with ⟨hp, hn⟩ | ⟨dt, hn, hp | ⟨hp, hlt⟩⟩ | ⟨_, hp⟩ | ⟨hp, hn⟩
  · rw [hn]; exact hinv d (hp ▸ hd)                                  -- the loop is not touched
  · rw [hp] at hd; cases hd                                          -- time passes and the poll starts
  · rw [hn]; exact hlt d (hp ▸ hd)                                   -- time passes within the phase
  · rw [hp] at hd; cases hd                                          -- the startup query fails
  · rw [hp] at hd; cases hd; rw [hn]; exact Nat.lt_add_of_pos_right (Nat.succ_pos 59)   -- the timer is armed

/-! Non-vacuity: a run in which notifications are stale/lost and a poll catches up -/
example : ∃ s, hrun (HSt.init 100)
    [.serve, .deliver, .notify 90, .setNode 105, .advance 60, .serveErr, .deliver, .advance 60, .serve, .deliver]
    = some s ∧ s.height = 105 ∧ s.told = [100, 90, 105] :=
  ⟨{ height := 105, nodeH := 105, now := 120, phase := .sleeping 180, served := none, told := [100, 90, 105] }, by decide⟩

end Tramp
