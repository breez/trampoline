/-
C12 (system clauses) — whenever the plugin answers with a fee-or-expiry-insufficient failure it
encodes exactly the configured policy; the first HTLC of a payment with no earlier attempt is
answered with that failure if its declared total fails the test or its relative expiry is below the
policy delta (non-zero MPP timeout).
-/
import Tramp.Props.Sys
import Tramp.Props.C12

namespace Tramp

/-- the only fee-or-expiry-insufficient failure the plugin ever builds carries the configured
    base fee, proportional fee and CLTV delta -/
theorem c12_failure_is_policy (c : Cfg) : foei c = .fail (.foei c.feeBase c.feePpm c.policyDelta) := rfl

/-- first HTLC of a payment (no table entry yet): if its declared total fails the fee test or its
    relative expiry is below the policy delta, the fee-or-expiry failure is put into the (empty) fail
    channel and readiness is not signalled -/
theorem c12_first_htlc_rejected (c : Cfg) (info : SInfo) (i : Inv) (relExp : Int) (total : Nat)
    (hbad : feeOk c total info.amount = false ∨ relExp < (c.policyDelta : Int)) :
    (((PEntry.new info).checks c info relExp total).add c i).failBuf = some (foei c) ∧
    (((PEntry.new info).checks c info relExp total).add c i).readySent = false ∧
    (((PEntry.new info).checks c info relExp total).add c i).readyBuf = false := by
  -- the invoice is the entry's own, so the first test passes; one of the other two gives `foei`
  have hb : (decide (relExp < (c.policyDelta : Int)) || !feeOk c total info.amount) = true := by
    rcases hbad with h | h <;> simp [h]
  have hchk : (PEntry.new info).checks c info relExp total = (PEntry.new info).fail (foei c) := by
    show (((PEntry.new info).failIf (info != info) _).failIf _ (foei c)).failIf _ (foei c) = _
    rw [bne_self_eq_false, PEntry.failIf_failIf, hb]
    rfl
  rw [hchk, PEntry.add_of_rejected c rfl]
  exact ⟨rfl, rfl, rfl⟩

/-- with no earlier attempt on record and a non-zero timeout the owner then sits in the `select!`
    where the fail branch is ready and the ready branch is not: taking it answers every held HTLC
    with exactly that failure (the timer branch becomes ready only one full timeout later, C11) -/
theorem c12_first_htlc_answer (c : Cfg) (s : SState) (e : PEntry) (o : Owner) (d : Nat)
    (hact : s.active = some (e, o)) (hpc : o.pc = .waitHtlcs d) (hfb : e.failBuf = some (foei c)) :
    sstep c .current s .takeFail = some ({ s with active := none }, e.listeners.map (fun i => Out.resp i (foei c))) ∧
    (e.readyBuf = false → sstep c .current s .takeReady = none) := by
  refine ⟨(Step.takeFail hact hpc hfb).sstep_eq, ?_⟩
  intro hrb; simp [sstep, hact, hpc, hrb]

/-- and the bytes on the wire are `0x2000|26 ‖ base ‖ ppm ‖ delta` (C12, `c12_encode`) -/
theorem c12_failure_bytes (c : Cfg) :
    encodeFailure (.foei c.feeBase c.feePpm c.policyDelta) =
      [0x20, 26] ++ (beBytes 4 c.feeBase ++ (beBytes 4 c.feePpm ++ beBytes 2 c.policyDelta)) := rfl

end Tramp
