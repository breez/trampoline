/-
What a step can emit, and what is true when it does (uses both invariants); how the part table evolves; no task of
the plugin panics (write faults allowed, read faults excluded).
-/
import Tramp.Proofs.SysStep
import Tramp.Proofs.SysEntry

namespace Tramp

/-- a response is justified: a settlement carries the preimage of a complete part; a failure is
    given only when nothing is live on the node -/
def RespOk (s : SState) : Resp → Prop
  | .resolve pre => HasComplete s.parts pre
  | .fail _ => s.quiet

theorem ownerCont_out {c : Cfg} {s : SState} {e : PEntry} {pc : OPc} {served : List (SReq × SReply)} {q : SReq}
    {r : SReply} {n : ONext} (h : SInv .current s) (hact : s.active = some (e, { pc := pc, served := served }))
    (hq : q ∈ pc.outstanding .current) (hl : lookupS served q = some r) (hn : ownerCont c .current s pc q r = n) :
    match n with
    | .finish r' | .finishBk r' _ => RespOk s r'
    | .panic => False
    | _ => True := by
  obtain ⟨hpci, hfact, hrun⟩ := h.parked hact hl
  have hm := ownerCont_move c .current s pc q r
  rw [hn] at hm
  induction hm with
  | timeUp _ he => exact he.quiet hq hpci hfact
  | settled =>
    cases List.mem_singleton.mp hq
    exact hfact
  | fetchErr _ r hr =>
    cases List.mem_singleton.mp hq
    cases r with
    | listed cell => exact (hr cell rfl).elim
    | _ => exact hfact.elim
  | @writeErr pc _ _ hpc =>
    -- a failed write is reported while the owner still knows that nothing is live
    cases pc with
    | rFailA | rFailS | addS => exact hpci
    | addA => exact hpci.1
    | _ => exact hpc.elim
  -- `WInv` where `wait_payment` has returned is the fact `RespOk` asks for (`HasComplete` at `.some pre`, `False` at `.err`)
  | rwSome aid g t w pq pr hw => exact (hw ▸ wDeliver_inv hpci.1 (prov_mem hq) hfact :)
  -- the owner's only `todo!()` sits behind a `wait_payment` that returned an error, which needs a read fault
  | rwErr aid g t w pq pr hw => exact (hw ▸ wDeliver_inv hpci.1 (prov_mem hq) hfact :)
  | payOk aid g p pq pr hp => exact (hp ▸ paying_deliver_inv hpci hrun (prov_mem hq) hfact :)
  | payErr aid g p pq pr hp => exact ⟨(hp ▸ paying_deliver_inv hpci hrun (prov_mem hq) hfact :), hrun⟩
  | _ => trivial

/-- the three kinds of steps as seen from outside -/
inductive Emit (s s' : SState) (outs : List Out) : Prop where
  | silent : outs = [] → Emit s s' outs
  | answered (e : PEntry) (o : Owner) (r : Resp) :
      s.active = some (e, o) → outs = respAll e r → s'.active = none → RespOk s r → Emit s s' outs
  | paid (e : PEntry) (o : Owner) (aid g mf md : Nat) :
      s.active = some (e, o) → o.pc = .addA aid g mf md → outs = [payOut e mf md] →
      s.quiet → PastMarker s g → s'.payRunning = true → Emit s s' outs

theorem step_emit (c : Cfg) {s s' : SState} {outs : List Out} (a : SAct) (h : SInv .current s) (he : EInvS c s)
    (hs : sstep c .current s a = some (s', outs)) : Emit s s' outs := by
  induction Step.of_sstep hs with
  | finish q hact hq hr hn | finishBk q hact hq hr hn =>
    exact .answered _ _ _ hact rfl rfl (ownerCont_out h hact hq hr hn)
  | pay q hact hq hr hn =>
    obtain ⟨aid, g, hpc, _⟩ := ownerCont_pay hn
    have hpci := h.ownerAt hact hpc
    exact .paid _ _ aid g _ _ hact hpc rfl hpci.1 hpci.2 rfl
  | timerFire hact hpc => exact .answered _ _ _ hact rfl rfl (h.ownerAt hact hpc)
  | takeFail hact hpc hbuf =>
    -- only failures are ever put into the fail channel
    obtain ⟨_, fr, rfl⟩ := (he _ _ hact).failBuf _ hbuf
    exact .answered _ _ _ hact rfl rfl (h.ownerAt hact hpc)
  | _ => exact .silent rfl

/-- a step that answers an HTLC answers all HTLCs of the entry, with one justified response, and
    removes the entry -/
theorem Emit.resp {s s' : SState} {outs : List Out} {i : Inv} {r : Resp} (h : Emit s s' outs)
    (ho : Out.resp i r ∈ outs) :
    ∃ e o, s.active = some (e, o) ∧ i ∈ e.listeners ∧ outs = respAll e r ∧ s'.active = none ∧ RespOk s r := by
  cases h with
  | silent h => rw [h] at ho; cases ho
  | answered e o r' hact houts hnone hok =>
    rw [houts] at ho
    obtain ⟨rfl, hi⟩ := mem_respAll.mp ho
    exact ⟨e, o, hact, hi, houts, hnone, hok⟩
  | paid e o aid g mf md _ _ houts => rw [houts] at ho; cases List.mem_singleton.mp ho

/-- a step that issues a pay request: the owner held the acknowledged attempt record, the request is
    built from the entry and from what the program counter stored, nothing is live, the marker is in place -/
theorem Emit.pay {s s' : SState} {outs : List Out} {b : Nat} {am : Option Nat} {mf md : Nat} (h : Emit s s' outs)
    (ho : Out.pay b am mf md ∈ outs) :
    ∃ e o aid g, s.active = some (e, o) ∧ o.pc = .addA aid g mf md ∧ b = e.info.bolt11 ∧
      am = (if e.info.invHasAmount then none else some e.info.amount) ∧ s.quiet ∧ PastMarker s g ∧
      s'.payRunning = true := by
  cases h with
  | silent h => rw [h] at ho; cases ho
  | answered e o r _ houts => rw [houts] at ho; exact absurd ho pay_not_mem_respAll
  | paid e o aid g mf' md' hact hpc houts hq hpm hrun =>
    rw [houts] at ho
    cases List.mem_singleton.mp ho
    exact ⟨e, o, aid, g, hact, hpc, rfl, rfl, hq, hpm, hrun⟩

/-- the part table changes only through the environment: creation by a running pay command and
    resolution of pending parts; every other action leaves it alone -/
theorem sstep_parts (c : Cfg) {s s' : SState} {outs : List Out} (a : SAct)
    (hs : sstep c .current s a = some (s', outs)) :
    s'.parts = s.parts ∨
    (∃ id, a = .create id ∧ s'.parts = s.parts ++ [{ id := id, st := .pending }]) ∨
    (∃ id st, a = .resolve id st ∧ st ≠ .pending ∧ s'.parts = resolvePart s.parts id st) := by
  induction Step.of_sstep hs with
  | env he =>
    induction he with
    | create id => exact .inr (.inl ⟨id, rfl, rfl⟩)
    | resolve id st hst => exact .inr (.inr ⟨id, st, rfl, hst, rfl⟩)
    | _ => exact .inl rfl
  | _ => exact .inl rfl

theorem hasComplete_step (c : Cfg) {s s' : SState} {outs : List Out} (a : SAct) (x : Nat)
    (hs : sstep c .current s a = some (s', outs)) (h : HasComplete s.parts x) : HasComplete s'.parts x := by
  rcases sstep_parts c a hs with hp | ⟨id, _, hp⟩ | ⟨id, st, _, _, hp⟩ <;> rw [hp]
  · exact h
  · exact hasComplete_append h
  · exact hasComplete_resolve id st h

theorem hasComplete_run (c : Cfg) (acts : List SAct) (s s' : SState) (x : Nat)
    (hr : srun c .current s acts = some s') (h : HasComplete s.parts x) : HasComplete s'.parts x :=
  srun_invariant (P := fun s => HasComplete s.parts x) (fun _ a _ _ h hs => hasComplete_step c a x hs h) hr h

/-- no step sets the panic flag (current tree: the sum of amounts saturates; the `todo!()` of the
    restart path needs a read fault) -/
theorem panicked_step (c : Cfg) {s s' : SState} {outs : List Out} (a : SAct) (h : SInv .current s)
    (hs : sstep c .current s a = some (s', outs)) : s'.panicked = s.panicked := by
  induction Step.of_sstep hs with
  | env he => exact he.frame.panicked
  | panic q hact hq hr hn => exact (ownerCont_out h hact hq hr hn).elim
  | _ => rfl

theorem no_panic_run (c : Cfg) (acts : List SAct) (s0 s : SState) (h : SInv .current s0) (hf : WriteFaultsOnly acts)
    (hr : srun c .current s0 acts = some s) : s.panicked = s0.panicked :=
  (srun_induction (P := fun s => SInv .current s ∧ s.panicked = s0.panicked) (A := SAct.writeFaultOnly)
    (fun _ a _ _ h ha hs => ⟨sstep_inv c a h.1 ha hs, (panicked_step c a h.1 hs).trans h.2⟩)
    ⟨h, rfl⟩ hf hr).2

end Tramp
