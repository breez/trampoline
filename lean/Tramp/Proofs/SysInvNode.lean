/- Preservation of the system invariant, node side: the fields the invariant does not read, the part table, the
   datastore cell, and the node serving a request (truthfully or with a write fault). -/
import Tramp.Proofs.SysInv

namespace Tramp

theorem sinv_frame {v : SVariant} {s : SState} (h : SInv v s) {as : List Nat} {nextAid mono wall height nextInv : Nat}
    {p : Bool} :
    SInv v { s with attempts := as, nextAid := nextAid, mono := mono, wall := wall, height := height,
                    nextInv := nextInv, panicked := p } :=
  ⟨h.nodup, h.payOwn, h.wal, h.succ, h.owner, h.bks, h.bkIds⟩

/-- the running pay command creates a part: the owner sits in `paying` with nothing parked, and nothing was
    quiet before -/
theorem sinv_create {v : SVariant} {s : SState} (h : SInv v s) {id : Nat} (hrun : s.payRunning = true)
    (hnew : findPart s.parts id = none) :
    SInv v { s with parts := s.parts ++ [{ id := id, st := .pending }] } := by
  have hnq : ¬ s.quiet := fun hq => nomatch (quiet_not_running hq).symm.trans hrun
  obtain ⟨e, o, aid, g, hact, hpc, hsv⟩ := h.payOwn hrun
  exact { h with
    nodup := partsNodup_append h.nodup hnew _
    wal := fun _ => h.wal hnq
    succ := fun pre g' hds => hasComplete_append (h.succ pre g' hds)
    owner := fun _ _ ha => by
      cases hact.symm.trans ha
      rw [hpc, hsv]
      exact ownerInv_nil (h.ownerAt hact hpc)
    bks := fun b hb => bkInv_mono (fun _ => hasComplete_append)
      (fun _ _ hg => ⟨hg.1, fun hi => absurd (hg.2 hi) hnq⟩) (h.bks b hb) }

theorem quiet_resolve {s : SState} (id : Nat) (st : PStatus) (h : s.quiet) :
    ({ s with parts := resolvePart s.parts id st } : SState).quiet :=
  ⟨partsQuiet_resolve id st h.1, h.2⟩

/-- a pending part is resolved: every fact about the part table is stable -/
theorem sinv_resolve {v : SVariant} {s : SState} (h : SInv v s) {id : Nat} {st : PStatus} (hst : st ≠ .pending) :
    SInv v { s with parts := resolvePart s.parts id st } :=
  { h with
    nodup := partsNodup_resolve id st h.nodup
    wal := fun hq => h.wal fun hq' => hq (quiet_resolve id st hq')
    succ := fun pre g hds => hasComplete_resolve id st (h.succ pre g hds)
    owner := fun e o ha =>
      have hnp : ∀ pend, ownerWpc o.pc = some (.seqComplete pend) → NonPendingOutside s.parts pend :=
        fun _ hw => (oPcInv_wpc (h.owner e o ha).1 hw).1.2
      owner_mono (quiet_resolve id st) (fun _ => hasComplete_resolve id st) (fun _ hp => hp)
        (fun _ => wInv_resolve id hst) (fun _ => servedFact_resolve id hst hnp) rfl (h.owner e o ha)
    bks := fun b hb => bkInv_mono (fun _ => hasComplete_resolve id st)
      (fun _ _ hg => ⟨hg.1, fun hi => quiet_resolve id st (hg.2 hi)⟩) (h.bks b hb) }

/-- what the owner knows does not rest on the datastore cell -/
def NoClaim (v : SVariant) (s : SState) : Prop :=
  ∀ e o, s.active = some (e, o) → ∀ cell, OwnerInv v { s with ds := cell } o

/-- A value is stored with a fresh generation. A Succeeded value has to carry the preimage of a complete part; Free
    may be stored when nothing is live and nobody holds a marker. -/
theorem sinv_ds {v : SVariant} {s : SState} (h : SInv v s) {v' : DsVal} {g' : Nat} (hnew : dsNewer s g')
    (hsucc : ∀ pre, v' = .succeeded pre → HasComplete s.parts pre) (hfree : v' = .free → s.quiet ∧ NoClaim v s) :
    SInv v { s with ds := some (v', g') } :=
  { h with
    wal := fun hq => ⟨v', g', rfl, fun hv => hq (hfree hv).1⟩
    succ := fun pre g hds => by cases hds; exact hsucc pre rfl
    owner := fun e o ha => by
      by_cases hv : v' = .free
      · exact (hfree hv).2 e o ha _
      · exact owner_mono_marker (fun _ => pastMarker_gen_up hv hnew) (h.owner e o ha)
    bks := fun b hb => bkInv_mono (s := s) (s' := { s with ds := some (v', g') }) (fun _ hc => hc)
      (fun g _ hg =>
        have hlt : g < g' := lt_of_dsNewer hnew hg.1
        ⟨⟨v', g', rfl, Nat.le_of_lt hlt⟩, fun ⟨_, h1⟩ => by cases h1; exact absurd hlt (Nat.lt_irrefl _)⟩)
      (h.bks b hb) }

/-- what the task that issues the write `q` has to know for the write to be harmless: a preimage it stores is that of
    a complete part; its guarded Free write lands only when nothing is live and nobody holds a marker -/
def Warrant (s : SState) : SReq → Prop
  | .dsWriteState (.succeeded pre) _ => HasComplete s.parts pre
  | .dsWriteState .free m => ∃ g, m = .mustReplace (some g) ∧ (dsGenIs s g → s.quiet ∧ NoClaim .current s)
  | _ => True

theorem sinv_nodeServe {s s1 : SState} {q : SReq} {r : SReply} (h : SInv .current s) (hw : Warrant s q)
    (hres : nodeServe s q = some (s1, r)) : SInv .current s1 ∧ ∀ pc, OFact s1 pc (q, r) := by
  cases q with
  | dsList =>
    cases hres
    exact ⟨h, oFact_listed h⟩
  | dsWriteAttempt aid m =>
    simp only [nodeServe] at hres
    split at hres <;> cases hres
    · exact ⟨sinv_frame h, fun _ => trivial⟩
    · exact ⟨h, fun _ => trivial⟩
  | prov pq =>
    simp only [nodeServe] at hres
    split at hres <;> cases hres
    exact ⟨h, fun _ => servedFact_serveRead h.nodup ‹_›⟩
  | dsWriteState v' m =>
    rcases nodeServe_writeState_cases hres with ⟨g, rfl, rfl, hnew, hgw⟩ | ⟨rfl, rfl⟩
    · refine ⟨sinv_ds h hnew (fun pre hv => ?_) (fun hv => ?_), fun pc => ?_⟩
      · subst hv
        exact hw
      · subst hv
        obtain ⟨g0, rfl, hq⟩ := hw
        exact hq (hgw g0 rfl)
      · cases v' with
        | pending aid t => exact pastMarker_written h (fun hv => nomatch hv) hnew
        | _ => trivial
    · exact ⟨h, fun _ => oFact_writeErr rfl⟩

theorem sinv_nodeFault {s s1 : SState} {q : SReq} {f : Fault} {r : SReply} (h : SInv .current s) (hw : Warrant s q)
    (hf : f = .writeReject ∨ f = .writeLostAck) (hres : nodeFault s q f = some (s1, r)) :
    SInv .current s1 ∧ q.isWrite = true ∧ r = .writeErr := by
  rcases nodeFault_cases hres with ⟨_, hq, rfl, hr⟩ | ⟨_, hq, hr, r', hres'⟩ | ⟨rfl, _⟩ | ⟨rfl, _⟩
  · exact ⟨h, hq, hr⟩
  · exact ⟨(sinv_nodeServe h hw hres').1, hq, hr⟩
  all_goals nomatch hf

/-- the owner writes Free only on the restart path, where it knows that nothing is live, and nothing it knows or has
    been told there speaks of the cell -/
theorem owner_warrant {s : SState} {e : PEntry} {o : Owner} {q : SReq} (h : SInv .current s)
    (hact : s.active = some (e, o)) (hq : q ∈ o.pc.outstanding .current) : Warrant s q := by
  cases q with
  | dsWriteState v' m =>
    obtain ⟨hpc, hsv⟩ := h.owner e o hact
    obtain ⟨pc, served⟩ := o
    rcases owner_write_state_cases hq with ⟨aid, g, t, rfl, rfl, rfl⟩ | ⟨_, _, _, _, _, rfl, _⟩
    · refine ⟨g, rfl, fun _ => ⟨hpc, fun _ _ ha cell => ?_⟩⟩
      cases hact.symm.trans ha
      -- a reply parked at `rFailS` answers the one write outstanding there, and `OFact` of a write reply does not read the cell
      refine ⟨hpc, fun x hx => ⟨(hsv x hx).1, ?_⟩⟩
      obtain ⟨hx1, hxf⟩ := hsv x hx
      obtain ⟨x1, x2⟩ := x
      cases List.mem_singleton.mp hx1
      cases x2 with
      | written | writeErr => trivial
      | _ => exact hxf.elim
    · trivial
  | _ => trivial

/-- a bookkeeper stores the preimage that its lifecycle obtained; when the guarded Free write of a failed lifecycle
    matches, nothing is live, and no marker is in force: it would lie above the bookkeeper's generation and at most at
    the stored one -/
theorem bk_warrant {s : SState} {b : Bk} (h : SInv .current s) (hb : b ∈ s.bks) : Warrant s (b.pc.request .current) := by
  have hbi := h.bks b hb
  obtain ⟨id, pc, sv⟩ := b
  cases pc with
  | succS aid pre => exact hbi
  | succA | failA => trivial
  | failS aid g =>
    exact ⟨g, rfl, fun hi => ⟨hbi.2 hi, fun e o ha cell =>
      owner_mono_marker (fun g0 hp => absurd hi (hp.not_genIs hb rfl)) (h.owner e o ha)⟩⟩

end Tramp
