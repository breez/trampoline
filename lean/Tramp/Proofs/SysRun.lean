/- Runs. `srunO` collects the outputs of every step; `srun`, which `Reach` is stated with, is its state component
   (`srun_eq_srunO`), so there is one induction over runs, `srunO_induction`, and `srun_induction` (`srun_invariant`
   where every action is allowed) is read off it. Last, how a concrete schedule is run one `Step` at a time. -/
import Tramp.Proofs.StepView

namespace Tramp

def srunO (c : Cfg) (v : SVariant) : SState → List SAct → Option (SState × List Out)
  | s, [] => some (s, [])
  | s, a :: as =>
    match sstep c v s a with
    | some (s', o) =>
      match srunO c v s' as with
      | some (s'', os) => some (s'', o ++ os)
      | none => none
    | none => none

theorem srunO_cons_some {c : Cfg} {v : SVariant} {s s' : SState} {a : SAct} {as : List SAct} {outs : List Out}
    (h : srunO c v s (a :: as) = some (s', outs)) :
    ∃ s1 o os, sstep c v s a = some (s1, o) ∧ srunO c v s1 as = some (s', os) ∧ outs = o ++ os := by
  simp only [srunO] at h
  split at h
  · rename_i s1 o h1
    split at h <;> cases h
    exact ⟨s1, o, _, h1, ‹_›, rfl⟩
  · cases h

theorem srunO_append {c : Cfg} {v : SVariant} {l1 l2 : List SAct} {sa sb sc : SState} {o1 o2 : List Out}
    (h1 : srunO c v sa l1 = some (sb, o1)) (h2 : srunO c v sb l2 = some (sc, o2)) :
    srunO c v sa (l1 ++ l2) = some (sc, o1 ++ o2) := by
  induction l1 generalizing sa o1 with
  | nil => cases h1; exact h2
  | cons a as ih =>
    obtain ⟨s1, o, os, hs, hr, rfl⟩ := srunO_cons_some h1
    simp only [List.cons_append, srunO, hs, ih hr, List.append_assoc]

theorem srun_eq_srunO (c : Cfg) (v : SVariant) : ∀ (s : SState) (acts : List SAct),
    srun c v s acts = (srunO c v s acts).map (·.1)
  | _, [] => rfl
  | s, a :: as => by
    simp only [srun, srunO]
    cases sstep c v s a with
    | none => rfl
    | some p => simp only [srun_eq_srunO c v p.1 as]; cases srunO c v p.1 as <;> rfl

theorem srunO_induction {c : Cfg} {v : SVariant} {P : SState → List Out → Prop} {A : SAct → Prop}
    (hstep : ∀ s a s' past outs, P s past → A a → sstep c v s a = some (s', outs) → P s' (past ++ outs)) :
    ∀ (acts : List SAct) (s s' : SState) (past outs : List Out), P s past → (∀ a ∈ acts, A a) →
      srunO c v s acts = some (s', outs) → P s' (past ++ outs)
  | [], s, s', past, outs, h, _, hr => by cases hr; rw [List.append_nil]; exact h
  | a :: as, s, s', past, outs, h, hA, hr => by
    obtain ⟨s1, o1, o2, hs, hr2, rfl⟩ := srunO_cons_some hr
    rw [← List.append_assoc]
    exact srunO_induction hstep as s1 s' (past ++ o1) o2 (hstep s a s1 past o1 h (hA a (List.mem_cons_self ..)) hs)
      (fun x hx => hA x (List.mem_cons_of_mem _ hx)) hr2

theorem srunO_of_srun {c : Cfg} {v : SVariant} {s s' : SState} {acts : List SAct} (h : srun c v s acts = some s') :
    ∃ outs, srunO c v s acts = some (s', outs) := by
  rw [srun_eq_srunO] at h
  obtain ⟨⟨_, outs⟩, hr, rfl⟩ := Option.map_eq_some_iff.mp h
  exact ⟨outs, hr⟩

theorem srun_of_srunO {c : Cfg} {v : SVariant} {s s' : SState} {acts : List SAct} {outs : List Out}
    (h : srunO c v s acts = some (s', outs)) : srun c v s acts = some s' := by
  rw [srun_eq_srunO, h]
  rfl

theorem srun_induction {c : Cfg} {v : SVariant} {P : SState → Prop} {A : SAct → Prop}
    (hstep : ∀ s a s' outs, P s → A a → sstep c v s a = some (s', outs) → P s') {acts : List SAct} {s s' : SState}
    (h : P s) (hA : ∀ a ∈ acts, A a) (hr : srun c v s acts = some s') : P s' :=
  let ⟨outs, hr⟩ := srunO_of_srun hr
  srunO_induction (P := fun s _ => P s) (fun s a s' _ outs => hstep s a s' outs) acts s s' [] outs h hA hr

theorem srun_invariant {c : Cfg} {v : SVariant} {P : SState → Prop}
    (hstep : ∀ s a s' outs, P s → sstep c v s a = some (s', outs) → P s') {acts : List SAct} {s s' : SState}
    (hr : srun c v s acts = some s') (h : P s) : P s' :=
  srun_induction (A := fun _ => True) (fun s a s' outs h _ => hstep s a s' outs h) h (fun _ _ => trivial) hr

theorem srun_append {c : Cfg} {v : SVariant} {l1 l2 : List SAct} {sa sb sc : SState}
    (h1 : srun c v sa l1 = some sb) (h2 : srun c v sb l2 = some sc) : srun c v sa (l1 ++ l2) = some sc :=
  let ⟨_, h1⟩ := srunO_of_srun h1
  let ⟨_, h2⟩ := srunO_of_srun h2
  srun_of_srunO (srunO_append h1 h2)

/-! ### a schedule is run one `Step` at a time

`srunO_silent (.takeReady rfl rfl rfl) <| …`: the constructor names the way the step succeeds, its
arguments are the guards, and the state after the step is read off the constructor's type, so no
intermediate state is written. The state and the outputs at the end of a chain have to be left open
while it is elaborated (each step is found from the state before it), hence `Eq.trans chain rfl`
where a theorem states them. -/

theorem srunO_silent {c : Cfg} {s s1 : SState} {a : SAct} {as : List SAct} {r : SState × List Out}
    (h : Step c s a s1 []) (hr : srunO c .current s1 as = some r) : srunO c .current s (a :: as) = some r := by
  simp only [srunO, h.sstep_eq, hr, List.nil_append]

theorem srunO_emit {c : Cfg} {s s1 s' : SState} {a : SAct} {as : List SAct} {x : Out} {os : List Out}
    (h : Step c s a s1 [x]) (hr : srunO c .current s1 as = some (s', os)) :
    srunO c .current s (a :: as) = some (s', x :: os) := by
  simp only [srunO, h.sstep_eq, hr, List.singleton_append]

theorem srunO_last {c : Cfg} {s s' : SState} {a : SAct} {o : List Out} (h : Step c s a s' o) :
    srunO c .current s [a] = some (s', o) := by
  simp only [srunO, h.sstep_eq, List.append_nil]

end Tramp
