/- M1: big-endian integers (`beVal`/`beBytes` are inverse), BigSize (the three long forms as one notion, `Wide`; read
   after write, and what a successful read says), the TLV loop never panics, and the record list operations.
   (`fun_induction f …` with its numbered cases: the first of the two idioms of DESIGN.md §3.) -/
import Tramp.Model.Bytes

namespace Tramp

theorem beVal_nil : beVal [] = 0 := rfl

theorem snoc_induction {P : Bytes → Prop} (hnil : P [])
    (hsnoc : ∀ bs b, P bs → P (bs ++ [b])) : ∀ bs, P bs := by
  intro bs
  rw [← List.reverse_reverse bs]
  induction bs.reverse with
  | nil => exact hnil
  | cons b l ih => rw [List.reverse_cons]; exact hsnoc _ b ih

theorem beVal_snoc (bs : Bytes) (b : UInt8) : beVal (bs ++ [b]) = beVal bs * 256 + b.toNat := by
  simp [beVal, List.foldl_append]

theorem beBytes_length (k n : Nat) : (beBytes k n).length = k := by
  induction k generalizing n with
  | zero => rfl
  | succ k ih => simp [beBytes, ih]

theorem beVal_beBytes (k n : Nat) : beVal (beBytes k n) = n % 256 ^ k := by
  induction k generalizing n with
  | zero => rw [Nat.pow_zero, Nat.mod_one]; rfl
  | succ k ih =>
    rw [beBytes, beVal_snoc, ih, UInt8.toNat_ofNat_of_lt' (Nat.mod_lt _ (by decide)), Nat.pow_succ,
      Nat.mul_comm (256 ^ k), Nat.mod_mul, Nat.mul_comm, Nat.add_comm]

theorem beVal_beBytes_of_lt {k n : Nat} (h : n < 256 ^ k) : beVal (beBytes k n) = n := by
  rw [beVal_beBytes, Nat.mod_eq_of_lt h]

theorem beVal_lt (bs : Bytes) : beVal bs < 256 ^ bs.length := by
  induction bs using snoc_induction with
  | hnil => exact Nat.one_pos
  | hsnoc bs b ih =>
    have := b.toNat_lt
    rw [beVal_snoc, List.length_append, List.length_singleton, Nat.pow_succ]
    omega

theorem beBytes_beVal (bs : Bytes) : beBytes bs.length (beVal bs) = bs := by
  induction bs using snoc_induction with
  | hnil => rfl
  | hsnoc bs b ih =>
    have hb : b.toNat < 256 := b.toNat_lt
    -- `(v * 256 + b) % 256 = b` and `(v * 256 + b) / 256 = v`, by rewriting: omega is slow on these
    rw [List.length_append, List.length_singleton, beBytes, beVal_snoc, Nat.mul_add_mod_of_lt hb,
      Nat.add_comm (beVal bs * 256), Nat.add_mul_div_right _ _ (by decide), Nat.div_eq_of_lt hb,
      Nat.zero_add, ih, UInt8.ofNat_toNat]

theorem be_split {w : Nat} {bs : Bytes} (h : w ≤ bs.length) :
    bs = beBytes w (beVal (bs.take w)) ++ bs.drop w ∧ beVal (bs.take w) < 256 ^ w := by
  have hl : (bs.take w).length = w := List.length_take_of_le h
  have h1 := beBytes_beVal (bs.take w)
  have h2 := beVal_lt (bs.take w)
  rw [hl] at h1 h2
  rw [h1, List.take_append_drop]
  exact ⟨rfl, h2⟩

theorem shortRead_ne_ok {α : Type} (m : ShortRead) (x : α) : shortRead m ≠ .ok x := by
  cases m <;> nofun

theorem readBE_beBytes (m : ShortRead) (w n : Nat) (r : Bytes) :
    readBE m w (beBytes w n ++ r) = .ok (n % 256 ^ w, r) := by
  have hl := beBytes_length w n
  rw [readBE, if_neg (by rw [List.length_append]; omega), List.take_left' hl, List.drop_left' hl,
    beVal_beBytes]

theorem readBE_ok {m : ShortRead} {w n : Nat} {bs r : Bytes} (h : readBE m w bs = .ok (n, r)) :
    bs = beBytes w n ++ r ∧ n < 256 ^ w := by
  unfold readBE at h
  split at h
  · exact absurd h (shortRead_ne_ok m _)
  · rename_i hl
    cases h
    exact be_split (Nat.le_of_not_lt hl)

theorem readBE_checked_ne_panic (w : Nat) (bs : Bytes) : readBE .checked w bs ≠ .panic := by
  unfold readBE
  split <;> nofun

/-- The three long forms of a BigSize: the marker byte, the width of the big-endian integer that
    follows it, and the least value `put_compact_size` writes in this form (which is also the least
    value BOLT 1 accepts in it). The decoders and the encoder agree form by form. -/
inductive Wide : UInt8 → Nat → Nat → Prop
  | u16 : Wide 253 2 253
  | u32 : Wide 254 4 0x10000
  | u64 : Wide 255 8 0x100000000

theorem Wide.get {c : UInt8} {w lo : Nat} (h : Wide c w lo) (m : ShortRead) (rest : Bytes) :
    getCompactSizeWith m (c :: rest) = readBE m w rest := by
  cases h <;> rfl

theorem Wide.put {c : UInt8} {w lo n : Nat} (h : Wide c w lo) (hlo : lo ≤ n) (hhi : n < 256 ^ w) :
    putCompactSize n = c :: beBytes w n := by
  have hlo' := Nat.not_lt.mpr hlo
  cases h with
  | u16 => rw [putCompactSize, if_neg hlo', if_pos hhi]
  | u32 => rw [putCompactSize, if_neg (by omega), if_neg hlo', if_pos hhi]
  | u64 => rw [putCompactSize, if_neg (by omega), if_neg (by omega), if_neg hlo']

theorem Wide.pow_le {c : UInt8} {w lo : Nat} (h : Wide c w lo) : 256 ^ w ≤ 2 ^ 64 := by
  cases h <;> decide

theorem getCompactSizeWith_short (m : ShortRead) {b : UInt8} (h : b.toNat < 253) (rest : Bytes) :
    getCompactSizeWith m (b :: rest) = .ok (b.toNat, rest) := by
  rw [getCompactSizeWith, if_neg (by omega), if_neg (by omega), if_neg (by omega)]

theorem byte_cases (b : UInt8) : b.toNat < 253 ∨ ∃ w lo, Wide b w lo := by
  have hb : b.toNat < 253 ∨ b.toNat = 253 ∨ b.toNat = 254 ∨ b.toNat = 255 := by
    have := b.toNat_lt; omega
  rcases hb with h | h | h | h
  · exact .inl h
  · cases (UInt8.toNat_inj (b := 253)).mp h; exact .inr ⟨_, _, .u16⟩
  · cases (UInt8.toNat_inj (b := 254)).mp h; exact .inr ⟨_, _, .u32⟩
  · cases (UInt8.toNat_inj (b := 255)).mp h; exact .inr ⟨_, _, .u64⟩

theorem u64_cases {n : Nat} (hn : n < 2 ^ 64) :
    n < 253 ∨ ∃ c w lo, Wide c w lo ∧ lo ≤ n ∧ n < 256 ^ w := by
  by_cases h1 : n < 253
  · exact .inl h1
  · by_cases h2 : n < 0x10000
    · exact .inr ⟨_, _, _, .u16, Nat.le_of_not_lt h1, h2⟩
    · by_cases h3 : n < 0x100000000
      · exact .inr ⟨_, _, _, .u32, Nat.le_of_not_lt h2, h3⟩
      · exact .inr ⟨_, _, _, .u64, Nat.le_of_not_lt h3, hn⟩

theorem getCompactSizeWith_put (m : ShortRead) (n : Nat) (hn : n < 2 ^ 64) (r : Bytes) :
    getCompactSizeWith m (putCompactSize n ++ r) = .ok (n, r) := by
  rcases u64_cases hn with h | ⟨c, w, lo, hW, hlo, hhi⟩
  · have hb : (UInt8.ofNat n).toNat = n := UInt8.toNat_ofNat_of_lt' (by unfold UInt8.size; omega)
    rw [putCompactSize, if_pos h, List.singleton_append, getCompactSizeWith_short m (by omega), hb]
  · rw [hW.put hlo hhi, List.cons_append, hW.get, readBE_beBytes, Nat.mod_eq_of_lt hhi]

theorem getCompactSizeWith_ok {m : ShortRead} {bs r : Bytes} {n : Nat}
    (h : getCompactSizeWith m bs = .ok (n, r)) : r.length < bs.length ∧ n < 2 ^ 64 := by
  cases bs with
  | nil => exact absurd h (shortRead_ne_ok m _)
  | cons b rest =>
    rcases byte_cases b with hb | ⟨w, lo, hW⟩
    · rw [getCompactSizeWith_short m hb] at h
      cases h
      exact ⟨Nat.lt_succ_self _, Nat.lt_trans hb (by decide)⟩
    · rw [hW.get] at h
      have ⟨e, hlt⟩ := readBE_ok h
      have := hW.pow_le
      rw [e, List.length_cons, List.length_append]
      omega

theorem getCompactSize_lt (m : ShortRead) (bs r : Bytes) (n : Nat)
    (h : getCompactSizeWith m bs = .ok (n, r)) : n < 2 ^ 64 :=
  (getCompactSizeWith_ok h).2

theorem getCompactSize_no_panic (bs : Bytes) : getCompactSize bs ≠ .panic := by
  unfold getCompactSize
  cases bs with
  | nil => nofun
  | cons b rest =>
    rcases byte_cases b with hb | ⟨w, lo, hW⟩
    · rw [getCompactSizeWith_short _ hb]; nofun
    · rw [hW.get]; exact readBE_checked_ne_panic w rest

/-- with one unit of fuel per byte the checked loop never panics (it never runs out of fuel) -/
theorem fromBytesAux_no_panic (fuel : Nat) (bs : Bytes) (h : bs.length ≤ fuel) :
    fromBytesAux .checked fuel bs ≠ .panic := by
  -- branch by branch: only the two reads and the remaining iterations could pass on a panic
  fun_induction fromBytesAux .checked fuel bs with
  | case2 => omega                                                              -- out of fuel
  | case5 _ bs _ hp => exact absurd hp (getCompactSize_no_panic bs)             -- the first read panics
  | case7 _ _ _ _ r1 _ hp => exact absurd hp (getCompactSize_no_panic r1)       -- the second read panics
  | case11 _ _ _ _ _ h1 _ _ h2 _ hp ih =>                                       -- the remaining iterations panic
    have l1 := (getCompactSizeWith_ok h1).1
    have l2 := (getCompactSizeWith_ok h2).1
    exact absurd hp (ih (by rw [List.length_drop]; omega))
  | _ => nofun

theorem toBytes_append (a b : List Entry) : toBytes (a ++ b) = toBytes a ++ toBytes b := by
  induction a with
  | nil => rfl
  | cons e a ih => rw [List.cons_append, toBytes, toBytes, ih, List.append_assoc]

theorem getEntry_eq_some {es : List Entry} {t : Nat} {e : Entry} (h : getEntry es t = some e) :
    e.typ = t ∧ ∃ pre post, es = pre ++ e :: post ∧ ∀ x ∈ pre, x.typ ≠ t := by
  have ⟨ht, pre, post, hes, hpre⟩ := List.find?_eq_some_iff_append.mp h
  exact ⟨beq_iff_eq.mp ht, pre, post, hes, fun x hx => by simpa using hpre x hx⟩

theorem removeEntry_append {pre post : List Entry} {e : Entry} {t : Nat}
    (hpre : ∀ x ∈ pre, x.typ ≠ t) (he : e.typ = t) :
    removeEntry (pre ++ e :: post) t = pre ++ post := by
  induction pre with
  | nil => exact if_pos (beq_iff_eq.mpr he)
  | cons x pre ih =>
    have ⟨hx, hpre'⟩ := List.forall_mem_cons.mp hpre
    rw [List.cons_append, removeEntry, if_neg (mt beq_iff_eq.mp hx), ih hpre', List.cons_append]

end Tramp
