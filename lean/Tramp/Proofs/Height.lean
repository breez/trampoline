/- M10, the height register and the poll loop: what one step does to both (`hstep_effect`), and the register over a run
   (`hrun_register`). -/
import Tramp.Model.Height

namespace Tramp

theorem updateHeight_eq_max (a b : Nat) : updateHeight a b = max a b := by
  unfold updateHeight
  split
  · exact (Nat.max_eq_right (Nat.le_of_lt ‹b > a›)).symm
  · exact (Nat.max_eq_left (Nat.le_of_not_lt ‹¬ b > a›)).symm

theorem foldl_max_le {l : List Nat} {acc b : Nat} : l.foldl max acc ≤ b ↔ acc ≤ b ∧ ∀ n ∈ l, n ≤ b := by
  induction l generalizing acc with
  | nil => simp
  | cons x xs ih => simp [ih, Nat.max_le, and_assoc]

/-- What one step does. To the register: the plugin is told nothing or one height, and the register
    takes the maximum (stated with a list, so that a run has the same form: `hrun_register`). To the
    poll loop: nothing; or time passes, and the loop starts polling or stays in its phase (a sleeper
    only while short of its deadline); or the startup query fails; or a reply is consumed and the
    timer is armed one interval ahead. -/
theorem hstep_effect {s s' : HSt} {a : HAct} (h : hstep s a = some s') :
    (∃ news, s'.told = s.told ++ news ∧ s'.height = news.foldl max s.height) ∧
    ((s'.phase = s.phase ∧ s'.now = s.now) ∨
     (∃ dt, s'.now = s.now + dt ∧
       (s'.phase = .polling ∨ s'.phase = s.phase ∧ ∀ d, s.phase = .sleeping d → s.now + dt < d)) ∨
     (s.phase = .starting ∧ s'.phase = .dead) ∨
     (s'.phase = .sleeping (s.now + POLL_INTERVAL) ∧ s'.now = s.now)) := by
  have same : ∃ news, s.told = s.told ++ news ∧ s.height = news.foldl max s.height :=
    ⟨[], (List.append_nil _).symm, rfl⟩
  have told : ∀ n, ∃ news, s.told ++ [n] = s.told ++ news ∧ updateHeight s.height n = news.foldl max s.height :=
    fun n => ⟨[n], rfl, updateHeight_eq_max _ _⟩
  revert h
  -- the branches of `hstep` that succeed, in its order, each with its guards
  fun_cases hstep s a <;> intro h <;> cases h
  · exact ⟨same, .inl ⟨rfl, rfl⟩⟩                                   -- setNode
  · exact ⟨told _, .inl ⟨rfl, rfl⟩⟩                                 -- notify
  · exact ⟨same, .inr (.inl ⟨_, rfl, .inl rfl⟩)⟩                    -- advance: the sleeper's deadline passes
  · rename_i hp hlt                                                 -- advance: short of the deadline
    exact ⟨same, .inr (.inl ⟨_, rfl, .inr ⟨rfl, fun d' hd' => by cases hp.symm.trans hd'; exact Nat.lt_of_not_le hlt⟩⟩)⟩
  · rename_i hp                                                     -- advance: nobody sleeps
    exact ⟨same, .inr (.inl ⟨_, rfl, .inr ⟨rfl, fun d hd => (hp d hd).elim⟩⟩)⟩
  · exact ⟨same, .inl ⟨rfl, rfl⟩⟩                                   -- serve
  · exact ⟨same, .inl ⟨rfl, rfl⟩⟩                                   -- serveErr
  · exact ⟨told _, .inr (.inr (.inr ⟨rfl, rfl⟩))⟩                   -- deliver: startup answered
  · exact ⟨same, .inr (.inr (.inl ⟨‹s.phase = .starting›, rfl⟩))⟩   -- deliver: startup failed
  · exact ⟨told _, .inr (.inr (.inr ⟨rfl, rfl⟩))⟩                   -- deliver: poll answered
  · exact ⟨same, .inr (.inr (.inr ⟨rfl, rfl⟩))⟩                     -- deliver: poll failed

/-- Over a run, from any state: the register ends as the maximum of what it was and everything the
    plugin was told on the way. -/
theorem hrun_register {acts : List HAct} {s s' : HSt} (h : hrun s acts = some s') :
    ∃ news, s'.told = s.told ++ news ∧ s'.height = news.foldl max s.height := by
  induction acts generalizing s with
  | nil => cases h; exact ⟨[], (List.append_nil _).symm, rfl⟩
  | cons a as ih =>
    simp only [hrun] at h
    cases hs : hstep s a with
    | none => rw [hs] at h; cases h
    | some s1 =>
      rw [hs] at h
      obtain ⟨n1, t1, h1⟩ := (hstep_effect hs).1
      obtain ⟨n2, t2, h2⟩ := ih h
      exact ⟨n1 ++ n2, by rw [t2, t1, List.append_assoc], by rw [h2, h1, List.foldl_append]⟩

end Tramp
