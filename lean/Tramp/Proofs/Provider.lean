/- The part table of the node (M4) and the provider process M5: `wait_payment` and the pay wrapper as relations
   (`WMove`, `PMove`), and the invariant `PInv` (sequential listing; any interleaving of resolutions).
   (`revert h; fun_cases f … <;> intro h`: the first of the two idioms of DESIGN.md §3.) -/
import Tramp.Model.Provider
import Tramp.Proofs.Lists

namespace Tramp

def HasComplete (ps : List Part) (x : Nat) : Prop := ∃ p ∈ ps, p.st = .complete x
def NonPendingOutside (ps : List Part) (ids : List Nat) : Prop := ∀ p ∈ ps, p.id ∉ ids → p.st ≠ .pending
def PartsNodup (ps : List Part) : Prop := (ps.map Part.id).Nodup

/-- ghost: no read fault (`serveErr`) among the actions -/
def noReadFault : List PAct → Bool
  | [] => true
  | .serveErr _ :: _ => false
  | _ :: as => noReadFault as

/-- what a served-but-not-consumed reply guarantees about the CURRENT table (stable facts).
    `w`: where `wait_payment` stands. An EMPTY listing of complete parts says something only relative to the
    pending ids listed before it (fix F5: pending first): a part complete now was pending then, hence among `pend`.
    `faulty`: what a read error proves — `False` where read faults are excluded. -/
def ServedFact (ps : List Part) (w : Option WPc) (faulty : Prop) : PReq × PReply → Prop
  | (.listPending, .pendingIds ids) => ids.Nodup ∧ NonPendingOutside ps ids
  | (.listComplete, .completePres pres) =>
      (∀ x ∈ pres, HasComplete ps x) ∧
      (pres = [] → ∀ pend, w = some (.seqComplete pend) → ∀ p ∈ ps, p.isComplete = true → p.id ∈ pend)
  | (.waitPart _, .waitPre x) => HasComplete ps x
  | (.waitPart id, .waitCode) => ∀ p ∈ ps, p.id = id → p.st = .failed
  | (.pay, .payComplete x) => HasComplete ps x
  | (.pay, .payPending) => True
  | (.pay, .payFailed _) => True
  | (.pay, .rpcErr) => True
  | (.listPending, .rpcErr) => faulty
  | (.listComplete, .rpcErr) => faulty
  | (.waitPart _, .rpcErr) => faulty
  | _ => False

/-- invariant of `wait_payment` at each program counter (`conc`, the concurrent listings of the pinned tree, is excluded) -/
def WInv (ps : List Part) (faulty : Prop) : WPc → Prop
  | .seqPending => True
  | .seqComplete pend => pend.Nodup ∧ NonPendingOutside ps pend
  | .waiting rem => rem.Nodup ∧ ∀ p ∈ ps, p.st ≠ .failed → p.id ∈ rem
  | .ret (.some x) => HasComplete ps x
  | .ret .none => partsQuiet ps
  | .ret .err => faulty
  | .conc _ _ => False

def wpcOf : PPc → Option WPc
  | .inWait _ w => some w
  | _ => none

def PInv (faulty : Prop) (s : PSys) : Prop :=
  PartsNodup s.parts ∧
  (s.payRunning = true → s.pc = .paying ∧ s.served = []) ∧
  (∀ x ∈ s.served, x.1 ∈ s.pc.outstanding ∧ ServedFact s.parts (wpcOf s.pc) faulty x) ∧
  (match s.pc with
   | .paying => True
   | .inWait _ w => WInv s.parts faulty w
   | .retWait (.some x) => HasComplete s.parts x
   | .retWait .none => partsQuiet s.parts
   | .retWait .err => faulty
   | .retPay (.ok x) => HasComplete s.parts x
   | .retPay .err => partsQuiet s.parts ∨ faulty)

theorem findPart_mem {ps : List Part} {id : Nat} {p : Part} (h : findPart ps id = some p) :
    p ∈ ps ∧ p.id = id :=
  find?_key (f := Part.id) h

theorem mem_pendingIds {ps : List Part} {p : Part} (hp : p ∈ ps) (h : p.st = .pending) :
    p.id ∈ pendingIds ps :=
  List.mem_map.mpr ⟨p, List.mem_filter.mpr ⟨hp, beq_iff_eq.mpr h⟩, rfl⟩

theorem Part.preimage?_eq_some {p : Part} {x : Nat} : p.preimage? = some x ↔ p.st = .complete x := by
  unfold Part.preimage?
  cases p.st with
  | complete y => exact ⟨fun h => by cases h; rfl, fun h => by cases h; rfl⟩
  | _ => exact ⟨nofun, nofun⟩

theorem mem_completePres {ps : List Part} {x : Nat} : x ∈ completePres ps ↔ HasComplete ps x :=
  List.mem_filterMap.trans (exists_congr fun _ => and_congr_right fun _ => Part.preimage?_eq_some)

theorem completePres_nil {ps : List Part} (h : completePres ps = []) : ∀ p ∈ ps, p.isComplete = false := by
  intro p hp
  cases hst : p.st with
  | complete x => exact absurd (mem_completePres.mpr ⟨p, hp, hst⟩) (h ▸ List.not_mem_nil)
  | _ => rw [Part.isComplete, hst]

theorem pendingIds_nodup {ps : List Part} (h : PartsNodup ps) : (pendingIds ps).Nodup :=
  (List.filter_sublist.map Part.id).nodup h

theorem partsNodup_append {ps : List Part} {id : Nat} (hn : PartsNodup ps) (h : findPart ps id = none)
    (st : PStatus) : PartsNodup (ps ++ [⟨id, st⟩]) := by
  unfold PartsNodup
  rw [List.map_append]
  refine nodup_snoc hn fun hmem => ?_
  obtain ⟨p, hp, hid⟩ := List.mem_map.mp hmem
  exact List.find?_eq_none.mp h p hp (beq_iff_eq.mpr hid)

theorem hasComplete_append {ps : List Part} {x : Nat} {q : Part} (h : HasComplete ps x) :
    HasComplete (ps ++ [q]) x := by
  obtain ⟨p, hp, hst⟩ := h
  exact ⟨p, List.mem_append_left _ hp, hst⟩

theorem nonPendingOutside_mem {ps : List Part} {ids : List Nat} (h : NonPendingOutside ps ids) {p : Part}
    (hp : p ∈ ps) (hst : p.st = .pending) : p.id ∈ ids :=
  Decidable.byContradiction fun hnot => h p hp hnot hst

theorem findPart_append (ps l : List Part) (id : Nat) : findPart (ps ++ l) id = (findPart ps id).or (findPart l id) :=
  List.find?_append

theorem resolved_id (c : Prop) [Decidable c] (p : Part) (st : PStatus) :
    (if c then { p with st := st } else p).id = p.id := by
  split <;> rfl

theorem resolvePart_map_id (ps : List Part) (id : Nat) (st : PStatus) :
    (resolvePart ps id st).map Part.id = ps.map Part.id :=
  (List.map_map ..).trans (List.map_congr_left fun p _ => resolved_id _ p st)

theorem partsNodup_resolve {ps : List Part} (id : Nat) (st : PStatus) (h : PartsNodup ps) :
    PartsNodup (resolvePart ps id st) := by
  unfold PartsNodup
  rw [resolvePart_map_id]
  exact h

theorem findPart_resolve (ps : List Part) (i : Nat) (st : PStatus) (id : Nat) :
    findPart (resolvePart ps i st) id =
      (findPart ps id).map fun p => if p.id == i && p.st == .pending then { p with st := st } else p := by
  unfold findPart resolvePart
  rw [List.find?_map]
  congr 2
  funext p
  exact congrArg (· == id) (resolved_id _ p st)

theorem findPart_resolve_final {ps : List Part} {id : Nat} {p : Part} {st : PStatus} (h : findPart ps id = some p)
    (hst : st ≠ .pending) : ∃ p', findPart (resolvePart ps id st) id = some p' ∧ p'.st ≠ .pending := by
  rw [findPart_resolve, h]
  refine ⟨_, rfl, ?_⟩
  dsimp only
  split
  · exact hst
  · rename_i hc
    exact fun hp => hc (Bool.and_eq_true_iff.mpr ⟨beq_iff_eq.mpr (findPart_mem h).2, beq_iff_eq.mpr hp⟩)

theorem forall_resolvePart {ps : List Part} {P : Part → Prop} (id : Nat) (st : PStatus)
    (hP : ∀ p ∈ ps, p.st = .pending → P p → P { p with st := st }) (h : ∀ p ∈ ps, P p) :
    ∀ q ∈ resolvePart ps id st, P q := by
  intro q hq
  obtain ⟨p, hp, rfl⟩ := List.mem_map.mp hq
  split
  · rename_i hc
    exact hP p hp (eq_of_beq (Bool.and_eq_true_iff.mp hc).2) (h p hp)
  · exact h p hp

theorem resolvePart_mem {ps : List Part} {id : Nat} {st : PStatus} {q : Part}
    (h : q ∈ resolvePart ps id st) :
    ∃ p ∈ ps, p.id = q.id ∧ (q = p ∨ (p.st = .pending ∧ q.st = st)) :=
  forall_resolvePart (P := fun q => ∃ p ∈ ps, p.id = q.id ∧ (q = p ∨ (p.st = .pending ∧ q.st = st))) id st
    (fun p hp hpend _ => ⟨p, hp, rfl, Or.inr ⟨hpend, rfl⟩⟩) (fun p hp => ⟨p, hp, rfl, Or.inl rfl⟩) q h

theorem resolvePart_keeps {ps : List Part} {id : Nat} {st : PStatus} {p : Part}
    (hp : p ∈ ps) (h : p.st ≠ .pending) : p ∈ resolvePart ps id st :=
  List.mem_map.mpr ⟨p, hp, if_neg fun hc => h (eq_of_beq (Bool.and_eq_true_iff.mp hc).2)⟩

theorem hasComplete_resolve {ps : List Part} {x : Nat} (id : Nat) (st : PStatus)
    (h : HasComplete ps x) : HasComplete (resolvePart ps id st) x := by
  obtain ⟨p, hp, hst⟩ := h
  exact ⟨p, resolvePart_keeps hp (by rw [hst]; exact PStatus.noConfusion), hst⟩

theorem nonPendingOutside_resolve {ps : List Part} {ids : List Nat} (id : Nat) {st : PStatus}
    (hst : st ≠ .pending) (h : NonPendingOutside ps ids) : NonPendingOutside (resolvePart ps id st) ids :=
  forall_resolvePart id st (fun _ _ _ _ _ => hst) h

theorem partsQuiet_resolve {ps : List Part} (id : Nat) (st : PStatus) (h : partsQuiet ps) :
    partsQuiet (resolvePart ps id st) :=
  forall_resolvePart id st (fun _ _ hpend hf => by rw [hf] at hpend; cases hpend) h

def Has (ps : List Part) (id : Nat) : Prop := id ∈ ps.map Part.id

theorem has_append {ps : List Part} {id : Nat} {x : Part} (h : Has ps id) : Has (ps ++ [x]) id := by
  unfold Has at *; rw [List.map_append]; exact List.mem_append_left _ h

theorem has_resolve {ps : List Part} {id : Nat} (i : Nat) (st : PStatus) (h : Has ps id) : Has (resolvePart ps i st) id := by
  unfold Has at *; rw [resolvePart_map_id]; exact h

theorem has_pendingIds {ps : List Part} {id : Nat} (h : id ∈ pendingIds ps) : Has ps id := by
  obtain ⟨p, hp, rfl⟩ := List.mem_map.mp h
  exact List.mem_map_of_mem (List.mem_filter.mp hp).1

theorem has_findPart {ps : List Part} {id : Nat} (h : Has ps id) : ∃ p, findPart ps id = some p := by
  obtain ⟨p, hp, rfl⟩ := List.mem_map.mp h
  cases hf : findPart ps p.id with
  | none => exact absurd (beq_self_eq_true _) (List.find?_eq_none.mp hf p hp)
  | some q => exact ⟨q, rfl⟩

theorem servedFact_resolve {ps : List Part} {w : Option WPc} {faulty : Prop} {x : PReq × PReply}
    (id : Nat) {st : PStatus} (hst : st ≠ .pending)
    (hw : ∀ pend, w = some (.seqComplete pend) → NonPendingOutside ps pend)
    (h : ServedFact ps w faulty x) : ServedFact (resolvePart ps id st) w faulty x := by
  obtain ⟨q, r⟩ := x
  cases q with
  | listPending =>
    cases r with
    | pendingIds ids => exact ⟨h.1, nonPendingOutside_resolve id hst h.2⟩
    | _ => exact h
  | listComplete =>
    cases r with
    | completePres pres =>
      -- a part that completes now was pending at the listing, hence among `pend`
      exact ⟨fun x hx => hasComplete_resolve id st (h.1 x hx), fun hnil pend hpc =>
        forall_resolvePart id st
          (fun p hp hpend _ _ => (nonPendingOutside_mem (hw pend hpc) hp hpend : p.id ∈ pend))
          (h.2 hnil pend hpc)⟩
    | _ => exact h
  | waitPart i =>
    cases r with
    | waitPre x => exact hasComplete_resolve id st h
    | waitCode =>
      exact forall_resolvePart id st (fun _ _ hpend hp hi => by rw [hp hi] at hpend; cases hpend) h
    | _ => exact h
  | pay =>
    cases r with
    | payComplete x => exact hasComplete_resolve id st h
    | _ => exact h

theorem wInv_resolve {ps : List Part} {faulty : Prop} {w : WPc} (id : Nat) {st : PStatus}
    (hst : st ≠ .pending) (h : WInv ps faulty w) : WInv (resolvePart ps id st) faulty w := by
  cases w with
  | seqPending => trivial
  | seqComplete pend => exact ⟨h.1, nonPendingOutside_resolve id hst h.2⟩
  | conc c p => exact h
  | waiting rem =>
    exact ⟨h.1, forall_resolvePart id st
      (fun _ _ hpend hin _ => hin (by rw [hpend]; exact PStatus.noConfusion)) h.2⟩
  | ret r =>
    cases r with
    | some x => exact hasComplete_resolve id st h
    | none => exact partsQuiet_resolve id st h
    | err => exact h

theorem servedFact_wpc_indep {ps : List Part} {w w' : Option WPc} {faulty : Prop} {q : PReq} {r : PReply}
    (hq : q ≠ .listComplete) (h : ServedFact ps w faulty (q, r)) : ServedFact ps w' faulty (q, r) := by
  cases q with
  | listComplete => exact absurd rfl hq
  | _ => cases r <;> exact h

theorem serveRead_pendingIds {ps : List Part} {q : PReq} {ids : List Nat} (h : serveRead ps q = some (.pendingIds ids)) :
    ids = pendingIds ps := by
  revert h
  fun_cases serveRead ps q <;> intro h <;> cases h
  rfl

theorem servedFact_serveRead {ps : List Part} {wo : Option WPc} {faulty : Prop} (hnd : PartsNodup ps)
    {q : PReq} {r : PReply} (hr : serveRead ps q = some r) : ServedFact ps wo faulty (q, r) := by
  revert hr
  -- the four answers of `serveRead`: the two listings, a part that completed, a part that failed
  fun_cases serveRead ps q <;> intro hr <;> cases hr
  · exact ⟨pendingIds_nodup hnd, fun p hp hnot hpend => hnot (mem_pendingIds hp hpend)⟩
  · exact ⟨fun x => mem_completePres.mp, fun hnil pend _ p hp hcomp => by
      rw [completePres_nil hnil p hp] at hcomp
      cases hcomp⟩
  · rename_i p hfind x hst
    exact ⟨p, (findPart_mem hfind).1, hst⟩
  · rename_i p hfind hst
    obtain ⟨hp, hid⟩ := findPart_mem hfind
    intro p' hp' hid'
    rw [nodup_map_inj hnd hp' hp (hid'.trans hid.symm)]
    exact hst

theorem servedFact_rpcErr {ps : List Part} {w : Option WPc} {faulty : Prop} {q : PReq} (hq : q ≠ .pay)
    (hf : faulty) : ServedFact ps w faulty (q, .rpcErr) := by
  cases q with
  | pay => exact absurd rfl hq
  | _ => exact hf

theorem servedFact_payEnd {ps : List Part} {w : Option WPc} {faulty : Prop} {r : PReply}
    (h : payReplyOk ps r = true) : ServedFact ps w faulty (.pay, r) := by
  cases r with
  | payComplete x =>
    obtain ⟨p, hp, hst⟩ := List.any_eq_true.mp h
    exact ⟨p, hp, eq_of_beq hst⟩
  | payPending | payFailed | rpcErr => trivial
  | _ => cases h

/-- the join of `wait_payment` on the ids `l` it still has to wait for: none left means nothing is live -/
theorem wInv_waitOrNone {ps : List Part} {faulty : Prop} {l : List Nat} (hnd : l.Nodup)
    (hall : ∀ p ∈ ps, p.st ≠ .failed → p.id ∈ l) :
    WInv ps faulty (if l.isEmpty then .ret .none else .waiting l) := by
  split
  · rename_i hemp
    exact fun p hp => Decidable.byContradiction fun hnf =>
      List.ne_nil_of_mem (hall p hp hnf) (List.isEmpty_iff.mp hemp)
  · exact ⟨hnd, hall⟩

theorem afterListings_inv {ps : List Part} {faulty : Prop} {pres pend : List Nat}
    (hnp : NonPendingOutside ps pend) (hpend : pend.Nodup)
    (hpres : ∀ x ∈ pres, HasComplete ps x)
    (hnil : pres = [] → ∀ p ∈ ps, p.isComplete = true → p.id ∈ pend) :
    WInv ps faulty (afterListings pres pend) := by
  cases pres with
  | cons x xs => exact hpres x List.mem_cons_self
  | nil =>
    refine wInv_waitOrNone hpend fun p hp hnf => ?_
    cases hst : p.st with
    | failed => exact absurd hst hnf
    | pending => exact nonPendingOutside_mem hnp hp hst
    | complete x => exact hnil rfl p hp (by rw [Part.isComplete, hst])

theorem afterListings_cases (pres pend : List Nat) :
    (∃ res, afterListings pres pend = .ret res) ∨ (pend ≠ [] ∧ afterListings pres pend = .waiting pend) := by
  unfold afterListings
  split
  · exact .inl ⟨_, rfl⟩
  · split
    · exact .inl ⟨_, rfl⟩
    · rename_i h
      exact .inr ⟨fun h0 => h (List.isEmpty_iff.mpr h0), rfl⟩

/-- where `wait_payment` goes when the reply to one of its OUTSTANDING requests is consumed: it returns,
    or goes on to the second listing, to the `waitsendpay` round, to the parts that remain; `concC` and
    `concP`: one of the two concurrent listings of the pinned tree is in -/
inductive WMove : WPc → PReq → PReply → WPc → Prop
  | ret {w : WPc} {q : PReq} {r : PReply} {res : WRes} (hq : q ∈ w.outstanding) : WMove w q r (.ret res)
  | listed (ids : List Nat) : WMove .seqPending .listPending (.pendingIds ids) (.seqComplete ids)
  | wait {pend : List Nat} {r : PReply} (h : pend ≠ []) : WMove (.seqComplete pend) .listComplete r (.waiting pend)
  | next {rem : List Nat} {id : Nat} (hid : id ∈ rem) (h : rem.erase id ≠ []) :
      WMove (.waiting rem) (.waitPart id) .waitCode (.waiting (rem.erase id))
  | concC {p : Option (Option (List Nat))} {r : PReply} (x : Option (List Nat)) :
      WMove (.conc none p) .listComplete r (concJoin (some x) p)
  | concP {c : Option (Option (List Nat))} {r : PReply} (y : Option (List Nat)) :
      WMove (.conc c none) .listPending r (concJoin c (some y))

theorem wDeliver_move {w : WPc} {q : PReq} (r : PReply) (hq : q ∈ w.outstanding) : WMove w q r (wDeliver w q r) := by
  cases w with
  | seqPending =>
    cases List.mem_singleton.mp hq
    cases r with
    | pendingIds ids => exact .listed ids
    | _ => exact .ret hq
  | seqComplete pend =>
    cases List.mem_singleton.mp hq
    cases r with
    | completePres pres =>
      show WMove _ _ _ (afterListings pres pend)
      rcases afterListings_cases pres pend with ⟨res, h⟩ | ⟨hne, h⟩ <;> rw [h]
      · exact .ret hq
      · exact .wait hne
    | _ => exact .ret hq
  | conc c p =>
    rcases List.mem_append.mp hq with h | h
    · cases c with
      | some c1 => cases h
      | none => cases List.mem_singleton.mp h; cases r <;> exact .concC _
    · cases p with
      | some p1 => cases h
      | none => cases List.mem_singleton.mp h; cases c <;> cases r <;> exact .concP _
  | waiting rem =>
    obtain ⟨id, hid, rfl⟩ := List.mem_map.mp hq
    cases r with
    | waitCode =>
      show WMove _ _ _ (if (rem.erase id).isEmpty then .ret .none else .waiting (rem.erase id))
      split
      · exact .ret hq
      · rename_i h
        exact .next hid (fun h0 => h (List.isEmpty_iff.mpr h0))
    | _ => exact .ret hq
  | ret res => cases hq

/-- the pay wrapper on the reply to one of its OUTSTANDING requests: it returns, or the pay command
    has ended and it enters `wait_payment`, or it goes on inside `wait_payment` -/
inductive PMove (v : Variant) : PPc → PReq → PReply → PPc → Prop
  | retPay {p : PPc} {q : PReq} {r : PReply} {res : PayRes} (hq : q ∈ p.outstanding) : PMove v p q r (.retPay res)
  | retWait {p : PPc} {q : PReq} {r : PReply} {res : WRes} (hq : q ∈ p.outstanding) : PMove v p q r (.retWait res)
  | enter (r : PReply) : PMove v .paying .pay r (.inWait true (WPc.start v))
  | inside {f : Bool} {w w' : WPc} {q : PReq} {r : PReply} (h : WMove w q r w') : PMove v (.inWait f w) q r (.inWait f w')

theorem pDeliver_move (v : Variant) {p : PPc} {q : PReq} (r : PReply) (hq : q ∈ p.outstanding) :
    PMove v p q r (pDeliver v p q r) := by
  cases p with
  | paying =>
    cases List.mem_singleton.mp hq
    show PMove v _ _ _ (payDeliver v r)
    unfold payDeliver
    split
    · exact .retPay hq
    · exact .enter _
    · exact .enter _
    · split
      · exact .retPay hq
      · exact .enter _
    · exact .enter _
  | inWait f w =>
    have hmv := wDeliver_move r hq
    show PMove v _ _ _ (finishWait f (wDeliver w q r))
    generalize wDeliver w q r = w' at hmv
    cases w' with
    | ret res =>
      cases f with
      | true => cases res <;> exact .retPay hq
      | false => exact .retWait hq
    | _ => exact .inside hmv
  | retWait | retPay => cases hq

theorem wDeliver_inv {ps : List Part} {faulty : Prop} {w : WPc} {q : PReq} {r : PReply}
    (hw : WInv ps faulty w) (hq : q ∈ w.outstanding) (hf : ServedFact ps (some w) faulty (q, r)) :
    WInv ps faulty (wDeliver w q r) := by
  cases w with
  | conc c p => exact hw.elim
  | ret res => cases hq
  | seqPending =>
    cases List.mem_singleton.mp hq
    cases r with
    | pendingIds | rpcErr => exact hf
    | _ => exact False.elim hf
  | seqComplete pend =>
    cases List.mem_singleton.mp hq
    cases r with
    | completePres pres => exact afterListings_inv hw.2 hw.1 hf.1 fun hnil => hf.2 hnil pend rfl
    | rpcErr => exact hf
    | _ => exact False.elim hf
  | waiting rem =>
    obtain ⟨id, _, rfl⟩ := List.mem_map.mp hq
    cases r with
    | waitPre | rpcErr => exact hf
    | waitCode =>
      -- part `id` has failed, so every live part is among the other ids
      exact wInv_waitOrNone (hw.1.erase id) fun p hp hnf =>
        (List.mem_erase_of_ne fun h => hnf (hf p hp h)).mpr (hw.2 p hp hnf)
    | _ => exact False.elim hf

/-- only `waiting` has several requests in flight, all of them waitsendpay -/
theorem wDeliver_keeps {ps : List Part} {faulty : Prop} {w : WPc} {q q' : PReq} {r r' : PReply} (hw : WInv ps faulty w)
    (hq : q ∈ w.outstanding) (hq' : q' ∈ w.outstanding) (hne : q' ≠ q) (hf : ServedFact ps (some w) faulty (q', r')) :
    (wDeliver w q r).outstanding = [] ∨
      (q' ∈ (wDeliver w q r).outstanding ∧ ∀ wo, ServedFact ps wo faulty (q', r')) := by
  have hm := wDeliver_move r hq
  generalize wDeliver w q r = w' at hm ⊢
  induction hm with
  | ret => exact .inl rfl
  | listed | wait => exact absurd (List.mem_singleton.mp hq') hne
  | next =>
    obtain ⟨id', hid', rfl⟩ := List.mem_map.mp hq'
    exact .inr ⟨List.mem_map_of_mem ((List.mem_erase_of_ne fun h => hne (congrArg _ h)).mpr hid'),
      fun _ => servedFact_wpc_indep PReq.noConfusion hf⟩
  | concC | concP => exact hw.elim

theorem finishWait_outstanding (f : Bool) (w : WPc) : (finishWait f w).outstanding = w.outstanding := by
  cases w with
  | ret r => cases f <;> cases r <;> rfl
  | _ => rfl

/-- the program-counter clause of `PInv` -/
def PcInv (ps : List Part) (faulty : Prop) : PPc → Prop
  | .paying => True
  | .inWait _ w => WInv ps faulty w
  | .retWait (.some x) => HasComplete ps x
  | .retWait .none => partsQuiet ps
  | .retWait .err => faulty
  | .retPay (.ok x) => HasComplete ps x
  | .retPay .err => partsQuiet ps ∨ faulty

theorem pinv_at {faulty : Prop} {s : PSys} {pc : PPc} (h : PInv faulty s) (hpc : s.pc = pc) :
    PcInv s.parts faulty pc :=
  hpc ▸ h.2.2.2

theorem pinv_idle {faulty : Prop} {s : PSys} (h : PInv faulty s) (hpc : s.pc ≠ .paying) :
    s.payRunning = false :=
  Bool.eq_false_iff.mpr fun hrun => hpc (h.2.1 hrun).1

theorem pcInv_resolve {ps : List Part} {faulty : Prop} {pc : PPc} (id : Nat) {st : PStatus}
    (hst : st ≠ .pending) (h : PcInv ps faulty pc) : PcInv (resolvePart ps id st) faulty pc := by
  cases pc with
  | paying => trivial
  | inWait f w => exact wInv_resolve id hst h
  | retWait r =>
    cases r with
    | some x => exact hasComplete_resolve id st h
    | none => exact partsQuiet_resolve id st h
    | err => exact h
  | retPay r =>
    cases r with
    | ok x => exact hasComplete_resolve id st h
    | err => exact h.imp_left (partsQuiet_resolve id st)

theorem pcInv_seqComplete {ps : List Part} {faulty : Prop} {pc : PPc} (h : PcInv ps faulty pc)
    (pend : List Nat) (hw : wpcOf pc = some (.seqComplete pend)) : NonPendingOutside ps pend := by
  cases pc with
  | inWait f w =>
    cases hw
    exact h.2
  | _ => cases hw

theorem finishWait_inv {ps : List Part} {faulty : Prop} {w : WPc} (f : Bool) (h : WInv ps faulty w) :
    PcInv ps faulty (finishWait f w) := by
  cases w with
  | ret r =>
    cases f with
    | false => cases r <;> exact h
    | true =>
      cases r with
      | some x => exact h
      | none => exact Or.inl h
      | err => exact Or.inr h
  | _ => exact h

theorem pDeliver_inv {ps : List Part} {faulty : Prop} {pc : PPc} {q : PReq} {r : PReply}
    (hpc : PcInv ps faulty pc) (hq : q ∈ pc.outstanding) (hf : ServedFact ps (wpcOf pc) faulty (q, r)) :
    PcInv ps faulty (pDeliver .current pc q r) := by
  cases pc with
  | paying =>
    cases List.mem_singleton.mp hq
    cases r with
    | payComplete x => exact hf
    | payFailed warn => cases warn <;> trivial
    | payPending | rpcErr => trivial
    | _ => exact False.elim hf
  | inWait f w => exact finishWait_inv f (wDeliver_inv hpc hq hf)
  | retWait | retPay => cases hq

/-- a reply that stays parked answers another request than `q`, so `wait_payment` is in `waiting`:
    its request stays in flight and its fact does not mention the pc -/
theorem pDeliver_keeps {ps : List Part} {faulty : Prop} (v : Variant) {pc : PPc} {q q' : PReq} {r r' : PReply}
    (hpc : PcInv ps faulty pc) (hq : q ∈ pc.outstanding) (hq' : q' ∈ pc.outstanding) (hne : q' ≠ q)
    (hf : ServedFact ps (wpcOf pc) faulty (q', r')) :
    (pDeliver v pc q r).outstanding = [] ∨
      (q' ∈ (pDeliver v pc q r).outstanding ∧ ∀ wo, ServedFact ps wo faulty (q', r')) := by
  cases pc with
  | paying => exact absurd ((List.mem_singleton.mp hq').trans (List.mem_singleton.mp hq).symm) hne
  | retWait | retPay => cases hq
  | inWait f w =>
    show (finishWait f _).outstanding = [] ∨ (q' ∈ (finishWait f _).outstanding ∧ _)
    rw [finishWait_outstanding]
    exact wDeliver_keeps hpc hq hq' hne hf

/-- the running pay command creates a part: nothing is parked then, nothing is claimed about the table -/
theorem pinv_create {faulty : Prop} {s : PSys} {id : Nat} (h : PInv faulty s) (hrun : s.payRunning = true)
    (hid : findPart s.parts id = none) :
    PInv faulty { s with parts := s.parts ++ [{ id := id, st := .pending }] } := by
  obtain ⟨hnd, hpay, -, -⟩ := h
  obtain ⟨hpaying, hnil⟩ := hpay hrun
  refine ⟨partsNodup_append hnd hid _, hpay, fun x hx => absurd hnil (List.ne_nil_of_mem hx), ?_⟩
  show PcInv _ faulty s.pc
  rw [hpaying]
  trivial

theorem pinv_resolve {faulty : Prop} {s : PSys} {st : PStatus} (id : Nat) (hst : st ≠ .pending)
    (h : PInv faulty s) : PInv faulty { s with parts := resolvePart s.parts id st } :=
  have ⟨hnd, hpay, hserved, hpc⟩ := h
  ⟨partsNodup_resolve id st hnd, hpay,
    fun x hx => ⟨(hserved x hx).1, servedFact_resolve id hst (pcInv_seqComplete hpc) (hserved x hx).2⟩,
    pcInv_resolve id hst hpc⟩

/-- a reply is parked. `b` is the pay flag afterwards: the flag as it was (false, `pinv_idle`) when the node answers a
    read, literally `false` when the pay command ends -/
theorem pinv_park {faulty : Prop} {s : PSys} {b : Bool} {q : PReq} {r : PReply} (h : PInv faulty s)
    (hb : b = false) (hq : q ∈ s.pc.outstanding) (hf : ServedFact s.parts (wpcOf s.pc) faulty (q, r)) :
    PInv faulty { s with payRunning := b, served := s.served ++ [(q, r)] } := by
  obtain ⟨hnd, -, hserved, hpc⟩ := h
  refine ⟨hnd, fun hrun => absurd (hb ▸ hrun) Bool.false_ne_true, fun x hx => ?_, hpc⟩
  rcases List.mem_append.mp hx with hx | hx
  · exact hserved x hx
  · cases List.mem_singleton.mp hx
    exact ⟨hq, hf⟩

theorem pinv_park_read {faulty : Prop} {s : PSys} {q : PReq} {r : PReply} (h : PInv faulty s)
    (hq : q ∈ s.pc.outstanding) (hne : q ≠ .pay) (hf : ServedFact s.parts (wpcOf s.pc) faulty (q, r)) :
    PInv faulty { s with served := s.served ++ [(q, r)] } :=
  pinv_park h (pinv_idle h fun hp => hne (by rw [hp] at hq; exact List.mem_singleton.mp hq)) hq hf

theorem pinv_deliver {faulty : Prop} {s : PSys} {q : PReq} {r : PReply} (h : PInv faulty s)
    (hq : q ∈ s.pc.outstanding) (hr : (q, r) ∈ s.served) :
    PInv faulty { s with pc := pDeliver .current s.pc q r,
                         served := if (pDeliver .current s.pc q r).outstanding.isEmpty then []
                                   else s.served.filter (fun x => x.1 != q) } := by
  obtain ⟨hnd, hpay, hserved, hpc⟩ := h
  refine ⟨hnd, fun hrun => absurd (hpay hrun).2 (List.ne_nil_of_mem hr), fun x hx => ?_,
    pDeliver_inv hpc hq (hserved _ hr).2⟩
  obtain ⟨hemp, hx⟩ := List.mem_ite_nil_left.mp hx
  obtain ⟨hxs, hxq⟩ := List.mem_filter.mp hx
  obtain ⟨hxo, hxf⟩ := hserved x hxs
  rcases pDeliver_keeps .current (r := r) hpc hq hxo (bne_iff_ne.mp hxq) hxf with hnone | ⟨hin, hf⟩
  · exact absurd (List.isEmpty_iff.mpr hnone) hemp
  · exact ⟨hin, hf _⟩

/-- The invariant is inductive: every step of the provider system preserves it (read faults only
    when `faulty` is granted). -/
theorem pstep_inv (faulty : Prop) (s s' : PSys) (a : PAct) (hinv : PInv faulty s)
    (hstep : pstep Variant.current s a = some s') (hf : ∀ q, a = .serveErr q → faulty) : PInv faulty s' := by
  revert hstep
  -- the branches of `pstep` that succeed, in its order, each with its guard `hc`
  fun_cases pstep Variant.current s a <;> intro h <;> cases h
  · rename_i hc
    obtain ⟨hrun, hid⟩ := Bool.and_eq_true_iff.mp hc
    exact pinv_create hinv hrun (Option.isNone_iff_eq_none.mp hid)
  · rename_i hc
    exact pinv_resolve _ (bne_iff_ne.mp hc) hinv
  · rename_i hc r hr
    exact pinv_park_read hinv (List.contains_iff_mem.mp (Bool.and_eq_true_iff.mp hc).1)
      (fun h => by rw [h] at hr; cases hr) (servedFact_serveRead hinv.1 hr)
  · rename_i hc
    obtain ⟨hc, hne⟩ := Bool.and_eq_true_iff.mp hc
    have hne := bne_iff_ne.mp hne
    exact pinv_park_read hinv (List.contains_iff_mem.mp (Bool.and_eq_true_iff.mp hc).1) hne
      (servedFact_rpcErr hne (hf _ rfl))
  · rename_i hc
    obtain ⟨hc, hok⟩ := Bool.and_eq_true_iff.mp hc
    have hpc : s.pc = .paying := eq_of_beq (Bool.and_eq_true_iff.mp (Bool.and_eq_true_iff.mp hc).1).2
    exact pinv_park hinv rfl (hpc ▸ List.mem_singleton.mpr rfl) (servedFact_payEnd hok)
  · rename_i hc r hr
    exact pinv_deliver hinv (List.contains_iff_mem.mp hc) (lookup_mem hr)

theorem noReadFault_cons {a : PAct} {as : List PAct} (h : noReadFault as = false) :
    noReadFault (a :: as) = false := by
  cases a with
  | serveErr q => rfl
  | _ => exact h

theorem prun_inv (faulty : Prop) {acts : List PAct} {s s' : PSys} (hinv : PInv faulty s)
    (hrun : prun Variant.current s acts = some s') (hf : noReadFault acts = false → faulty) : PInv faulty s' := by
  induction acts generalizing s with
  | nil =>
    cases hrun
    exact hinv
  | cons a as ih =>
    simp only [prun] at hrun
    split at hrun
    · rename_i s1 h1
      exact ih (pstep_inv faulty s s1 a hinv h1 fun q hq => hf (hq ▸ rfl)) hrun fun hnf => hf (noReadFault_cons hnf)
    · cases hrun

end Tramp
