/-
The entry invariant `EInv` (DESIGN.md §8), with the operations on the table entry: bookkeeping of amounts, expiries,
the single-shot channels, and what the owner's program counter implies about readiness.
Independent of the node: holds under every fault.
-/
import Tramp.Proofs.SysRun
import Tramp.Proofs.Fee

namespace Tramp

/-- `fail` (and so `failIf`) writes `isReady`, `isFailReq`, `failBuf` and nothing else: whatever is
    read off the entry without looking at these three is unchanged -/
theorem PEntry.failIf_frame {α : Type} (f : PEntry → α)
    (hf : ∀ e a b x, f { e with isReady := a, isFailReq := b, failBuf := x } = f e) (e : PEntry) (b : Bool) (r : Resp) :
    f (e.failIf b r) = f e := by
  unfold PEntry.failIf PEntry.fail
  split
  · split
    · rfl
    · exact hf ..
  · rfl

theorem PEntry.checks_frame {α : Type} (f : PEntry → α)
    (hf : ∀ e a b x, f { e with isReady := a, isFailReq := b, failBuf := x } = f e) (c : Cfg) (e : PEntry)
    (info : SInfo) (relExp : Int) (total : Nat) : f (e.checks c info relExp total) = f e := by
  unfold PEntry.checks
  rw [failIf_frame f hf, failIf_frame f hf, failIf_frame f hf]

theorem checks_info (c : Cfg) (e : PEntry) (info : SInfo) (relExp : Int) (total : Nat) :
    (e.checks c info relExp total).info = e.info :=
  PEntry.checks_frame (·.info) (fun _ _ _ _ => rfl) ..

@[simp] theorem PEntry.checks_listeners (c : Cfg) (e : PEntry) (info : SInfo) (relExp : Int) (total : Nat) :
    (e.checks c info relExp total).listeners = e.listeners :=
  PEntry.checks_frame (·.listeners) (fun _ _ _ _ => rfl) ..

@[simp] theorem PEntry.checks_received (c : Cfg) (e : PEntry) (info : SInfo) (relExp : Int) (total : Nat) :
    (e.checks c info relExp total).received = e.received :=
  PEntry.checks_frame (·.received) (fun _ _ _ _ => rfl) ..

@[simp] theorem PEntry.checks_readySent (c : Cfg) (e : PEntry) (info : SInfo) (relExp : Int) (total : Nat) :
    (e.checks c info relExp total).readySent = e.readySent :=
  PEntry.checks_frame (·.readySent) (fun _ _ _ _ => rfl) ..

@[simp] theorem PEntry.fail_isFailReq (e : PEntry) (r : Resp) : (e.fail r).isFailReq = true := by
  unfold PEntry.fail
  split
  · assumption
  · rfl

@[simp] theorem PEntry.failIf_isFailReq (e : PEntry) (b : Bool) (r : Resp) :
    (e.failIf b r).isFailReq = (b || e.isFailReq) := by
  cases b
  · rfl
  · exact e.fail_isFailReq r

/-- the rejection flag is never cleared, and is set as soon as one of the three tests fails -/
theorem PEntry.checks_isFailReq (c : Cfg) (e : PEntry) (info : SInfo) (relExp : Int) (total : Nat) :
    (e.checks c info relExp total).isFailReq =
      (!feeOk c total info.amount || (decide (relExp < (c.policyDelta : Int)) || (info != e.info || e.isFailReq))) := by
  simp only [PEntry.checks, PEntry.failIf_isFailReq]

theorem PEntry.fail_of_rejected {e : PEntry} (h : e.isFailReq = true) (r : Resp) : e.fail r = e := if_pos h

theorem PEntry.failIf_failIf (e : PEntry) (b b' : Bool) (r : Resp) :
    (e.failIf b r).failIf b' r = e.failIf (b || b') r := by
  cases b
  · rfl
  · cases b'
    · rfl
    · exact PEntry.fail_of_rejected (e.fail_isFailReq r) r

/-- no readiness for a rejected entry: `add_htlc` only records the HTLC -/
theorem PEntry.add_of_rejected (c : Cfg) {e : PEntry} (h : e.isFailReq = true) (i : Inv) : e.add c i = e.push i := by
  have : (e.push i).canReady c = false := by
    show (!e.isReady && !e.isFailReq && _) = false
    rw [h]; simp
  unfold PEntry.add; rw [this]; rfl

theorem PEntry.add_listeners (c : Cfg) (e : PEntry) (i : Inv) : (e.add c i).listeners = e.listeners ++ [i] := by
  unfold PEntry.add; split <;> rfl

theorem mem_arrive {c : Cfg} {e : PEntry} {info : SInfo} {relExp : Int} {total : Nat} {i j : Inv}
    (h : i ∈ ((e.checks c info relExp total).add c j).listeners) : i ∈ e.listeners ∨ i = j := by
  rw [PEntry.add_listeners, PEntry.checks_listeners] at h
  exact (List.mem_append.mp h).imp_right List.mem_singleton.mp

theorem PEntry.add_received (c : Cfg) (e : PEntry) (i : Inv) : (e.add c i).received = satAdd e.received i.amount := by
  unfold PEntry.add; split <;> rfl

theorem PEntry.add_rejected (c : Cfg) {e : PEntry} (i : Inv) (h : e.isFailReq = true ∧ e.readySent = false) :
    (e.add c i).isFailReq = true ∧ (e.add c i).readySent = false := by
  rw [PEntry.add_of_rejected c h.1]; exact h

theorem satAdd_le (a b : Nat) : satAdd a b ≤ a + b := by unfold satAdd; split <;> omega
theorem le_satAdd (a b : Nat) (h : a < U64) : a ≤ satAdd a b := by unfold satAdd U64 at *; split <;> omega
theorem satAdd_lt (a b : Nat) : satAdd a b < U64 := by unfold satAdd U64; split <;> omega

def sumAmounts (l : List Inv) : Nat := (l.map (·.amount)).sum

theorem sumAmounts_append (l : List Inv) (i : Inv) : sumAmounts (l ++ [i]) = sumAmounts l + i.amount := by
  simp [sumAmounts]

def needFor (c : Cfg) (amount : Nat) : Nat := amount + c.feeBase + amount * c.feePpm / 1000000

/-- what is received beyond the amount, the fee budget of C03, fits into what is received -/
theorem needFor_budget {c : Cfg} {a r : Nat} (h : needFor c a ≤ r) : r - a + a ≤ r := by
  unfold needFor at h
  omega

def OPc.pastReady : OPc → Bool
  | .gotReady => true
  | .gotParams _ _ => true
  | .addS _ _ _ _ => true
  | .addA _ _ _ _ => true
  | .paying _ _ _ => true
  | _ => false

def OPc.budget : OPc → Option Nat
  | .gotParams mf _ => some mf
  | .addS _ _ mf _ => some mf
  | .addA _ _ mf _ => some mf
  | _ => none

structure EInv (c : Cfg) (s : SState) (e : PEntry) (o : Owner) : Prop where
  recvLe   : e.received ≤ sumAmounts e.listeners
  cltvLe   : ∀ i ∈ e.listeners, e.cltv ≤ i.expiry
  ready    : e.readySent = true → needFor c e.info.amount ≤ e.received
  failBuf  : ∀ r, e.failBuf = some r → e.isFailReq = true ∧ ∃ fr, r = .fail fr
  readyBuf : e.readyBuf = true → e.readySent = true
  sentOr   : e.readySent = true → e.isReady = true ∨ e.isFailReq = true   -- a later `fail()` clears `is_ready`
  isReady  : e.isReady = true → e.readySent = true ∧ e.isFailReq = false
  past     : o.pc.pastReady = true → e.readySent = true                    -- the owner got past the `select!` through the ready channel only
  budget   : ∀ mf, o.pc.budget = some mf → mf + e.info.amount ≤ e.received
  ids      : (e.listeners.map (·.id)).Nodup ∧ ∀ i ∈ e.listeners, i.id < s.nextInv

def EInvS (c : Cfg) (s : SState) : Prop := ∀ e o, s.active = some (e, o) → EInv c s e o

/-- received amounts stay below 2⁶⁴ (saturating addition) -/
def RecvBounded (s : SState) : Prop := ∀ e o, s.active = some (e, o) → e.received < U64

theorem feeOk_need {c : Cfg} {t a : Nat} (h : feeOk c t a = true) : needFor c a ≤ t := by
  rw [feeOk, feeSufficient_eq] at h
  exact (of_decide_eq_true h).2.2

theorem einv_fail {c : Cfg} {s : SState} {e : PEntry} {o : Owner} (h : EInv c s e o) (fr : FailReason) :
    EInv c s (e.fail (.fail fr)) o := by
  unfold PEntry.fail
  by_cases hf : e.isFailReq = true
  · rw [if_pos hf]; exact h
  · rw [if_neg hf]
    exact { h with
      failBuf := fun r hr => ⟨rfl, fr, (Option.some.inj hr).symm⟩
      sentOr := fun _ => .inr rfl
      isReady := nofun }

theorem einv_failIf {c : Cfg} {s : SState} {e : PEntry} {o : Owner} (h : EInv c s e o) (b : Bool) (fr : FailReason) :
    EInv c s (e.failIf b (.fail fr)) o := by
  unfold PEntry.failIf; split
  · exact einv_fail h fr
  · exact h

theorem einv_checks {c : Cfg} {s : SState} {e : PEntry} {o : Owner} (h : EInv c s e o) (info : SInfo)
    (relExp : Int) (total : Nat) : EInv c s (e.checks c info relExp total) o :=
  einv_failIf (einv_failIf (einv_failIf h _ _) _ _) _ _

/-- a further HTLC is recorded: the sum, the minimum and the identifiers move, the flags do not -/
theorem einv_push {c : Cfg} {s s' : SState} {e : PEntry} {o : Owner} (h : EInv c s e o) (amount expiry : Nat)
    (hrecv : e.received < U64) (hn : s'.nextInv = s.nextInv + 1) :
    EInv c s' (e.push ⟨s.nextInv, amount, expiry⟩) o := by
  have hmono : e.received ≤ satAdd e.received amount := le_satAdd _ _ hrecv
  refine { h with
    recvLe := ?_
    cltvLe := ?_
    ready := fun hr => Nat.le_trans (h.ready hr) hmono
    budget := fun mf hmf => Nat.le_trans (h.budget mf hmf) hmono
    ids := hn ▸ fresh_snoc h.ids rfl }
  · show satAdd e.received amount ≤ sumAmounts (e.listeners ++ [_])
    rw [sumAmounts_append]
    exact Nat.le_trans (satAdd_le ..) (Nat.add_le_add_right h.recvLe _)
  · intro i hi
    rcases List.mem_append.mp hi with hi | hi
    · exact Nat.le_trans (Nat.min_le_right ..) (h.cltvLe i hi)
    · cases List.mem_singleton.mp hi; exact Nat.min_le_left ..

theorem einv_markReady {c : Cfg} {s : SState} {e : PEntry} {o : Owner} (h : EInv c s e o) (hc : e.canReady c = true) :
    EInv c s e.markReady o := by
  simp only [PEntry.canReady, Bool.and_eq_true, Bool.not_eq_true'] at hc
  exact { h with
    ready := fun _ => feeOk_need hc.2
    readyBuf := fun _ => rfl
    sentOr := fun _ => .inl rfl
    isReady := fun _ => ⟨rfl, hc.1.2⟩
    past := fun _ => rfl }

theorem einv_add {c : Cfg} {s s' : SState} {e : PEntry} {o : Owner} (h : EInv c s e o) (amount expiry : Nat)
    (hrecv : e.received < U64) (hn : s'.nextInv = s.nextInv + 1) :
    EInv c s' (e.add c ⟨s.nextInv, amount, expiry⟩) o := by
  unfold PEntry.add
  split
  · exact einv_markReady (einv_push h amount expiry hrecv hn) ‹_›
  · exact einv_push h amount expiry hrecv hn

theorem einv_new (c : Cfg) (s : SState) (info : SInfo) : EInv c s (PEntry.new info) { pc := .fetch, served := [] } :=
  ⟨Nat.zero_le _, nofun, nofun, nofun, nofun, nofun, nofun, nofun, nofun, List.nodup_nil, nofun⟩

/-- the entry is untouched, the call counter did not go back, and the owner's new program counter claims
    neither readiness nor a budget that the old one did not claim -/
theorem einv_owner_change {c : Cfg} {s s' : SState} {e : PEntry} {o o' : Owner} (h : EInv c s e o)
    (hn : s.nextInv ≤ s'.nextInv)
    (hpc : (o'.pc.pastReady = true → o.pc.pastReady = true) ∧ ∀ mf, o'.pc.budget = some mf → o.pc.budget = some mf) :
    EInv c s' e o' :=
  { h with
    past := fun hx => h.past (hpc.1 hx)
    budget := fun mf hmf => h.budget mf (hpc.2 mf hmf)
    ids := ⟨h.ids.1, fun i hi => Nat.lt_of_lt_of_le (h.ids.2 i hi) hn⟩ }

/-- a continuation never invents readiness or a budget: only `addA → paying` issues the pay request, and
    the program counters a reply leads to otherwise carry neither, except `addS → addA` and the moves
    inside `paying`, which keep what was there -/
theorem ownerCont_pcs {c : Cfg} {v : SVariant} {s : SState} {pc pc' : OPc} {q : SReq} {r : SReply}
    (hn : ownerCont c v s pc q r = .stay pc' ∨ ∃ mf md, ownerCont c v s pc q r = .pay pc' mf md) :
    (pc'.pastReady = true → pc.pastReady = true) ∧ ∀ mf, pc'.budget = some mf → pc.budget = some mf := by
  rcases hn with hn | ⟨mf, md, hn⟩
  · induction ownerCont_stay hn with
    | idle | mismatch => exact ⟨id, fun _ => id⟩
    | addS => exact ⟨fun _ => rfl, fun _ => id⟩
    | payGo => exact ⟨fun _ => rfl, nofun⟩
    | _ => exact ⟨nofun, nofun⟩
  · obtain ⟨_, _, rfl, rfl⟩ := ownerCont_pay hn
    exact ⟨fun _ => rfl, nofun⟩

/-- the entry invariant and the bound on the received sum are inductive, under EVERY action -/
theorem estep_inv (c : Cfg) {s s' : SState} {outs : List Out} (a : SAct) (h : EInvS c s) (hb : RecvBounded s)
    (hs : sstep c .current s a = some (s', outs)) : EInvS c s' ∧ RecvBounded s' := by
  suffices h' : ∀ e' o', s'.active = some (e', o') → EInv c s' e' o' ∧ e'.received < U64 from
    ⟨fun e o ha => (h' e o ha).1, fun e o ha => (h' e o ha).2⟩
  intro e' o' ha'
  have hle := (Step.of_sstep hs).forward.1
  have keep : ∀ {e o} {o1 : Owner}, s.active = some (e, o) →
      ((o1.pc.pastReady = true → o.pc.pastReady = true) ∧ ∀ mf, o1.pc.budget = some mf → o.pc.budget = some mf) →
      EInv c s' e o1 ∧ e.received < U64 :=
    fun hact hpc => ⟨einv_owner_change (h _ _ hact) hle hpc, hb _ _ hact⟩
  induction Step.of_sstep hs with
  | env he => exact keep (he.frame.active ▸ ha') ⟨id, fun _ => id⟩
  | arriveNew info amount expiry relExp total =>
    cases ha'
    exact ⟨einv_add (einv_checks (einv_new c s info) info relExp total) amount expiry
      (by rw [PEntry.checks_received]; exact (by decide : 0 < U64)) rfl, by rw [PEntry.add_received]; exact satAdd_lt ..⟩
  | arrive info amount expiry relExp total hact =>
    cases ha'
    exact ⟨einv_add (einv_checks (h _ _ hact) info relExp total) amount expiry
      (by rw [PEntry.checks_received]; exact hb _ _ hact) rfl, by rw [PEntry.add_received]; exact satAdd_lt ..⟩
  | payEnd _ hact | serveOwner _ hact | faultOwner _ _ hact => cases ha'; exact keep hact ⟨id, fun _ => id⟩
  | stay q hact _ _ hn => cases ha'; exact keep hact (ownerCont_pcs (.inl hn))
  | pay q hact _ _ hn => cases ha'; exact keep hact (ownerCont_pcs (.inr ⟨_, _, hn⟩))
  | panic q hact => cases ha'; exact keep hact ⟨nofun, nofun⟩
  | takeReady hact hpc hbuf =>
    cases ha'
    have h0 := h _ _ hact
    exact ⟨{ h0 with readyBuf := nofun, past := fun _ => h0.readyBuf hbuf, budget := nofun }, (hb _ _ hact :)⟩
  | readParams hact hpc =>
    cases ha'
    have h0 := h _ _ hact
    have hrs : e'.readySent = true := h0.past (by rw [hpc]; rfl)
    refine ⟨{ h0 with past := fun _ => hrs, budget := ?_ }, hb _ _ hact⟩
    intro mf hmf
    cases hmf
    exact needFor_budget (h0.ready hrs)
  | readHeight hact hpc =>
    cases ha'
    exact keep hact ⟨fun _ => by rw [hpc]; rfl, fun mf hmf => by rw [hpc]; exact hmf⟩
  | crash | finish | finishBk | timerFire | takeFail => cases ha'

theorem einv_reachable (c : Cfg) (acts : List SAct) (s : SState) (hr : srun c .current SState.init acts = some s) :
    EInvS c s ∧ RecvBounded s :=
  srun_invariant (P := fun s => EInvS c s ∧ RecvBounded s) (fun _ a _ _ h hs => estep_inv c a h.1 h.2 hs) hr
    ⟨fun _ _ ha => (nomatch ha), fun _ _ ha => (nomatch ha)⟩

end Tramp
