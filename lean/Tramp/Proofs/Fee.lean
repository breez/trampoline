/- M2: `fee_sufficient` as one equation (`feeSufficient_eq`), from which the statements of C12 and the readiness
   test of the table entry (`feeOk_need` in SysEntry) are read off. -/
import Tramp.Model.Fee

namespace Tramp

theorem guard_ok_decide {c P : Prop} [Decidable c] [Decidable P] :
    (if c then Res.ok false else .ok (decide P)) = .ok (decide (¬ c ∧ P)) := by
  by_cases h : c
  · rw [if_pos h, decide_eq_false (fun hc => hc.1 h)]
  · rw [if_neg h, decide_eq_decide.mpr (and_iff_right h).symm]

/-- The whole function at once: no input panics or errors, and the answer is `true` exactly when the
    product fits 64 bits, the required total fits 64 bits, and the exact predicate holds. -/
theorem feeSufficient_eq (base ppm total inv : Nat) :
    feeSufficient base ppm total inv =
      .ok (decide (inv * ppm < U64 ∧ inv + base + inv * ppm / 1000000 < U64 ∧
        inv + base + inv * ppm / 1000000 ≤ total)) := by
  unfold feeSufficient feeMsat ratePart
  -- the product and the quotient are opaque from here on: what remains is linear
  generalize inv * ppm = p
  generalize p / 1000000 = q
  rw [guard_ok_decide, guard_ok_decide, guard_ok_decide, guard_ok_decide]
  refine congrArg Res.ok (decide_eq_decide.mpr ?_)
  rw [Nat.not_lt, Nat.not_le, Nat.not_le, Nat.not_le, ← Nat.add_assoc]
  constructor
  · rintro ⟨_, h2, _, h4, h5⟩
    exact ⟨h2, h4, h5⟩
  · rintro ⟨h2, h4, h5⟩
    -- the first and the third guard follow from the last two
    have h1 : inv ≤ total := Nat.le_trans (Nat.le_add_right ..) (Nat.le_trans (Nat.le_add_right ..) h5)
    have h3 : base + q < U64 := Nat.lt_of_le_of_lt (Nat.add_le_add_right (Nat.le_add_left ..) q) h4
    exact ⟨h1, h2, h3, h4, h5⟩

theorem feeSufficient_true_iff (base ppm total inv : Nat) :
    feeSufficient base ppm total inv = .ok true ↔
      inv * ppm < U64 ∧ inv + base + inv * ppm / 1000000 < U64 ∧ feeExact base ppm total inv := by
  rw [feeSufficient_eq, Res.ok.injEq, decide_eq_true_eq]
  exact Iff.rfl

end Tramp
