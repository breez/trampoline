/- Preservation of the system invariant, plugin side: the table entry and its owner, the bookkeepers, and the owner
   consuming a reply. -/
import Tramp.Proofs.SysInvNode

namespace Tramp

/-- entry and owner change; the two counters are there for `arrive` (`nextInv`) and `readHeight` (`nextAid`), which
    advance them in the same step -/
theorem sinv_owner {v : SVariant} {s : SState} (h : SInv v s) {e' : PEntry} {o' : Owner} {nextAid nextInv : Nat}
    (hpay : s.payRunning = true → ∃ aid g, o'.pc = .paying aid g .paying ∧ o'.served = []) (hown : OwnerInv v s o') :
    SInv v { s with active := some (e', o'), nextAid := nextAid, nextInv := nextInv } :=
  { h with
    payOwn := fun hr => let ⟨aid, g, hp⟩ := hpay hr; ⟨e', o', aid, g, rfl, hp⟩
    owner := fun _ _ ha => by cases ha; exact hown }

theorem sinv_drop_owner {v : SVariant} {s : SState} (h : SInv v s) (hrun : s.payRunning = false) :
    SInv v { s with active := none } :=
  { h with
    payOwn := fun hr => nomatch hrun.symm.trans hr
    owner := fun _ _ ha => nomatch ha }

theorem sinv_crash {v : SVariant} {s : SState} (h : SInv v s) :
    SInv v { s with active := none, bks := [], payRunning := false } :=
  { h with
    payOwn := fun hr => nomatch hr
    wal := fun hq => h.wal fun hq' => hq ⟨hq'.1, rfl⟩
    owner := fun _ _ ha => nomatch ha
    bks := fun _ hb => nomatch hb
    bkIds := ⟨List.nodup_nil, fun _ hb => nomatch hb⟩ }

/-- says nothing as stated (`∨ True` in hypothesis and conclusion); the fact about parked replies is the last clause of
    `SInv.parked` -/
theorem not_running_of_served {v : SVariant} {s : SState} (h : SInv v s) {e : PEntry} {o : Owner}
    (hact : s.active = some (e, o)) {x : SReq × SReply} (hx : x ∈ o.served) (hnp : x.1 ≠ .prov .pay ∨ True) :
    s.payRunning = false ∨ True := Or.inr trivial

theorem sinv_owner_served {v : SVariant} {s : SState} (h : SInv v s) {e : PEntry} {o : Owner}
    (hact : s.active = some (e, o)) {q : SReq} {r : SReply} (hq : q ∈ o.pc.outstanding v)
    (hf : OFact s o.pc (q, r)) (hnp : q ≠ .prov .pay) :
    SInv v { s with active := some (e, { o with served := o.served ++ [(q, r)] }) } := by
  obtain ⟨h1, h2⟩ := h.owner e o hact
  refine sinv_owner h (fun hrun => ?_) ⟨h1, fun x hx => (List.mem_append.mp hx).elim (h2 x) fun hx => ?_⟩
  · obtain ⟨aid, g, hpc, _⟩ := h.running hact hrun
    rw [hpc] at hq
    exact absurd (List.mem_singleton.mp hq) hnp
  · cases List.mem_singleton.mp hx
    exact ⟨hq, hf⟩

/-- the owner consumed the reply to `q` and moved from `pc` to `pc'`: other replies stay parked only inside the same
    `wait_payment` call -/
theorem ownerInv_keepServed {v : SVariant} {s : SState} {pc pc' : OPc} {served : List (SReq × SReply)} {q : SReq}
    (hpc : OPcInv s pc')
    (hkeep : sameWait pc pc' = true → ∀ x ∈ served, x.1 ≠ q → (pc'.outstanding v).isEmpty = false →
      x.1 ∈ pc'.outstanding v ∧ OFact s pc' x) :
    OwnerInv v s { pc := pc', served := keepServed v pc pc' served q } :=
  ⟨hpc, fun x hx => let ⟨h1, h2, h3, h4⟩ := keepServed_mem hx; hkeep h1 x h3 h4 h2⟩

theorem ownerInv_moved {v : SVariant} {s : SState} {pc pc' : OPc} {served : List (SReq × SReply)} {q : SReq}
    (hpc : OPcInv s pc') (hs : sameWait pc pc' = false) :
    OwnerInv v s { pc := pc', served := keepServed v pc pc' served q } :=
  ownerInv_keepServed hpc fun hs' => nomatch hs.symm.trans hs'

/-- the pay RPC is issued: from now on the marker is what protects the payment -/
theorem sinv_issue_pay {v : SVariant} {s : SState} (h : SInv v s) {e : PEntry} {aid g : Nat}
    (hpm : PastMarker s g) :
    SInv v { s with active := some (e, { pc := .paying aid g .paying, served := [] }), payRunning := true } :=
  { h with
    payOwn := fun _ => ⟨e, _, aid, g, rfl, rfl, rfl⟩
    wal := fun _ => hpm.2.2
    owner := fun _ _ ha => by cases ha; exact ownerInv_nil hpm
    bks := fun b hb => bkInv_mono (s := s) (fun _ hc => hc)
      (fun gb hgb hg => ⟨hg.1, fun hi => absurd hi (hpm.not_genIs hb hgb)⟩) (h.bks b hb) }

theorem sinv_payEnd {v : SVariant} {s : SState} (h : SInv v s) {e : PEntry} {o : Owner} {r : PReply}
    (hact : s.active = some (e, o)) (hrun : s.payRunning = true) (hok : payReplyOk s.parts r = true) :
    SInv v { s with payRunning := false,
                    active := some (e, { o with served := o.served ++ [(.prov .pay, .prov r)] }) } := by
  have hnq : ¬ s.quiet := fun hq => nomatch (quiet_not_running hq).symm.trans hrun
  obtain ⟨aid, g, hpc, hsv⟩ := h.running hact hrun
  have hm := (h.owner e o hact).1
  obtain ⟨pc, served⟩ := o
  cases hpc
  cases hsv
  exact { h with
    payOwn := fun hr => nomatch hr
    wal := fun _ => h.wal hnq
    owner := fun _ _ ha => by
      cases ha
      exact ⟨hm, fun x hx => by cases List.mem_singleton.mp hx; exact ⟨List.mem_singleton.mpr rfl, servedFact_payEnd hok⟩⟩
    bks := fun b hb => bkInv_mono (s := s) (fun _ hc => hc) (fun _ _ hg => ⟨hg.1, fun hi => absurd (hg.2 hi) hnq⟩)
      (h.bks b hb) }

/-- the bookkeeper list changes, and each bookkeeper of the new list continues one of the old: same identifier, same
    failure generation -/
theorem sinv_bks {v : SVariant} {s : SState} (h : SInv v s) {bks' : List Bk} (hnd : (bks'.map (·.id)).Nodup)
    (hfrom : ∀ x ∈ bks', BkInv s x ∧ ∃ y ∈ s.bks, x.id = y.id ∧ x.pc.failGen = y.pc.failGen) :
    SInv v { s with bks := bks' } :=
  { h with
    owner := fun e o ha =>
      owner_mono_marker
        (fun _ hp => ⟨bkBelow_mono (fun x hx _ hgb => (hfrom x hx).2.imp fun _ hy => ⟨hy.1, hy.2.2.symm.trans hgb⟩) hp.1, hp.2⟩)
        (h.owner e o ha)
    bks := fun x hx => (hfrom x hx).1
    bkIds := ⟨hnd, fun x hx => (hfrom x hx).2.elim fun y hy => hy.2.1 ▸ h.bkIds.2 y hy.1⟩ }

theorem sinv_setBk {v : SVariant} {s : SState} (h : SInv v s) {b : Bk} (hb : b ∈ s.bks) {b' : Bk} (hid : b'.id = b.id)
    (hgen : b'.pc.failGen = b.pc.failGen) (hinv : BkInv s b') : SInv v { s with bks := setBk s.bks b' } :=
  sinv_bks h (setBk_map_id s.bks b' ▸ h.bkIds.1) fun x hx =>
    (mem_setBk hx).elim (fun he => he ▸ ⟨hinv, b, hb, hid, hgen⟩) fun hx' => ⟨h.bks x hx'.1, x, hx'.1, rfl, rfl⟩

theorem sinv_bk_served {v : SVariant} {s : SState} (h : SInv v s) {b : Bk} (hb : b ∈ s.bks) {r : SReply} :
    SInv v { s with bks := setBk s.bks { b with served := some r } } :=
  sinv_setBk h hb rfl rfl (h.bks b hb)

theorem sinv_dropBk {v : SVariant} {s : SState} (h : SInv v s) {id : Nat} : SInv v { s with bks := dropBk s.bks id } :=
  sinv_bks h (h.bkIds.1.sublist (List.Sublist.map _ List.filter_sublist)) fun x hx =>
    have hx' := (mem_dropBk hx).1
    ⟨h.bks x hx', x, hx', rfl, rfl⟩

/-- a bookkeeper goes on to its second write: `mark_succeeded` has nothing left to know, `mark_failed` keeps its
    generation -/
theorem bkCont_inv {s : SState} {b : Bk} {r : SReply} {pc' : BPc} (hk : bkCont b.pc r = some pc') (h : BkInv s b) :
    pc'.failGen = b.pc.failGen ∧ BkInv s { b with pc := pc', served := none } := by
  obtain ⟨id, pc, sv⟩ := b
  simp only [bkCont] at hk
  split at hk <;> cases hk
  · exact ⟨rfl, trivial⟩
  · exact ⟨rfl, h⟩

/-- the owner resolved its HTLCs and goes on as a bookkeeper -/
theorem sinv_owner_to_bk {v : SVariant} {s : SState} (h : SInv v s) (hrun : s.payRunning = false) {b : BPc}
    (hb : BkInv s { id := s.nextBk, pc := b, served := none }) :
    SInv v { s with active := none, bks := s.bks ++ [{ id := s.nextBk, pc := b, served := none }],
                    nextBk := s.nextBk + 1 } :=
  { h with
    payOwn := fun hr => nomatch hrun.symm.trans hr
    owner := fun _ _ ha => nomatch ha
    bks := fun x hx => (List.mem_append.mp hx).elim (h.bks x) fun hx => by cases List.mem_singleton.mp hx; exact hb
    bkIds := fresh_snoc h.bkIds rfl }

@[simp] theorem applyONext_stay (v : SVariant) (s : SState) (e : PEntry) (o : Owner) (q : SReq) (pc : OPc) :
    (applyONext v s e o q (.stay pc)).1 =
      { s with active := some (e, { pc := pc, served := keepServed v o.pc pc o.served q }) } := rfl
@[simp] theorem applyONext_pay (v : SVariant) (s : SState) (e : PEntry) (o : Owner) (q : SReq) (pc : OPc) (mf md : Nat) :
    (applyONext v s e o q (.pay pc mf md)).1 =
      { s with active := some (e, { pc := pc, served := [] }), payRunning := true } := rfl
@[simp] theorem applyONext_finish (v : SVariant) (s : SState) (e : PEntry) (o : Owner) (q : SReq) (r : Resp) :
    (applyONext v s e o q (.finish r)).1 = { s with active := none } := rfl
@[simp] theorem applyONext_finishBk (v : SVariant) (s : SState) (e : PEntry) (o : Owner) (q : SReq) (r : Resp) (b : BPc) :
    (applyONext v s e o q (.finishBk r b)).1 =
      { s with active := none, bks := s.bks ++ [{ id := s.nextBk, pc := b, served := none }], nextBk := s.nextBk + 1 } := rfl

theorem notRet_of_not_ret {w : WPc} (h : ∀ r, w ≠ .ret r) : w.notRet := by
  cases w <;> simp only [WPc.notRet] <;> exact absurd rfl (h _)

/-- the replies that stay parked when `wait_payment` consumes one reply and goes on keep request and fact -/
theorem wait_keep_facts {s : SState} {w : WPc} {pq : PReq} {pr : PReply} {pc pc' : OPc} {served : List (SReq × SReply)}
    (hw : ownerWpc pc = some w)
    (hout' : pc'.outstanding .current = (wDeliver w pq pr).outstanding.map .prov)
    (hwinv : WInv s.parts False w) (hq : pq ∈ w.outstanding)
    (hsv : ∀ x ∈ served, x.1 ∈ pc.outstanding .current ∧ OFact s pc x) :
    ∀ x ∈ served, x.1 ≠ .prov pq → (pc'.outstanding .current).isEmpty = false →
      x.1 ∈ pc'.outstanding .current ∧ OFact s pc' x := by
  intro x hx hxq hne
  obtain ⟨hxo, hxf⟩ := hsv x hx
  obtain ⟨x1, x2⟩ := x
  rw [outstanding_of_ownerWpc .current hw] at hxo
  obtain ⟨pq', hpq', rfl⟩ := List.mem_map.mp hxo
  obtain ⟨r2, rfl⟩ := oFact_matches hxf pq' rfl
  have hxf' : ServedFact s.parts (some w) False (pq', r2) := hw ▸ hxf
  rcases wDeliver_keeps (r := pr) hwinv hq hpq' (fun he => hxq (he ▸ rfl)) hxf' with hemp | ⟨hin, hf⟩
  · rw [hout', hemp] at hne; cases hne
  · exact ⟨hout' ▸ List.mem_map_of_mem hin, hf _⟩

/-- the owner enters the HTLC wait only when nothing is live: the cell it read was absent or free, or
    it has just written the free marker itself -/
theorem Enters.quiet {c : Cfg} {s : SState} {pc : OPc} {q : SReq} {r : SReply} {tl : Nat} (he : Enters c s pc r tl)
    (hq : q ∈ pc.outstanding .current) (hpc : OPcInv s pc) (hf : OFact s pc (q, r)) : s.quiet := by
  induction he with
  | fresh | free => cases List.mem_singleton.mp hq; exact hf
  | restart => exact hpc

theorem paying_deliver_inv {s : SState} {aid g : Nat} {p : PPc} {pq : PReq} {pr : PReply} (hpc : OPcInv s (.paying aid g p))
    (hrun : s.payRunning = false) (hq : pq ∈ p.outstanding)
    (hf : ServedFact s.parts (ownerWpc (.paying aid g p)) False (pq, pr)) :
    match pDeliver SVariant.current.prov p pq pr with
    | .retPay (.ok pre) => HasComplete s.parts pre
    | .retPay .err => partsQuiet s.parts
    | p' => OPcInv s (.paying aid g p') := by
  cases p with
  | retWait | retPay => exact hpc.elim
  | paying =>
    cases List.mem_singleton.mp hq
    have go : OPcInv s (.paying aid g (.inWait true .seqPending)) := ⟨hpc, trivial, trivial, hrun, rfl⟩
    cases pr with
    | payComplete => exact hf
    | payPending | rpcErr => exact go
    | payFailed warn => cases warn <;> exact go
    | _ => exact hf.elim
  | inWait f w =>
    obtain ⟨hm, hw, _, _, rfl⟩ := hpc
    have hw' := wDeliver_inv hw hq hf
    simp only [pDeliver]
    generalize wDeliver w pq pr = w' at hw'
    cases w' with
    | ret res =>
      cases res with
      | some | none => exact hw'
      | err => exact hw'.elim
    | conc => exact hw'.elim
    | _ => exact ⟨hm, hw', trivial, hrun, rfl⟩

theorem sinv_move {c : Cfg} {s : SState} {e : PEntry} {pc : OPc} {served : List (SReq × SReply)} {q : SReq}
    {r : SReply} {n : ONext} (h : SInv .current s) (hact : s.active = some (e, { pc := pc, served := served }))
    (hq : q ∈ pc.outstanding .current) (hr : lookupS served q = some r) (hn : ownerCont c .current s pc q r = n) :
    SInv .current (applyONext .current s e { pc := pc, served := served } q n).1 := by
  obtain ⟨hpc, hf, hrun⟩ := h.parked hact hr
  have hsv := (h.owner _ _ hact).2
  have hm := ownerCont_move c .current s pc q r
  rw [hn] at hm
  induction hm with
  | timeUp | settled | fetchErr | writeErr => exact sinv_drop_owner h hrun
  -- `wait_payment` returned: `WInv` at `.ret (.some pre)` is `HasComplete s.parts pre`, which is what `BkInv` asks at `succS`; at
  -- `.ret .none` it is `partsQuiet s.parts`, at `.ret .err` it is `False`; `paying_deliver_inv` says the same of the pay wrapper
  | rwSome aid g t w pq pr hw => exact sinv_owner_to_bk h hrun (hw ▸ wDeliver_inv hpc.1 (prov_mem hq) hf :)
  | rwErr aid g t w pq pr hw => exact (hw ▸ wDeliver_inv hpc.1 (prov_mem hq) hf : WInv s.parts False (.ret .err)).elim
  | addA => exact sinv_issue_pay h hpc.2
  | payOk aid g p pq pr hp => exact sinv_owner_to_bk h hrun (hp ▸ paying_deliver_inv hpc hrun (prov_mem hq) hf :)
  | payErr aid g p pq pr hp =>
    exact sinv_owner_to_bk h hrun
      ⟨(oPcInv_paying hpc).2.1, fun _ => ⟨(hp ▸ paying_deliver_inv hpc hrun (prov_mem hq) hf :), hrun⟩⟩
  | stay hst =>
    -- the lifecycle goes on: what the owner knows at its new program counter, and which replies stay parked
    refine sinv_owner h (fun hr => nomatch hrun.symm.trans hr) ?_
    induction hst with
    | wait _ he =>
      have hqt := he.quiet hq hpc hf
      -- `sameWait pc _` computes only once `pc` is a constructor: `fetch` or `rFailS`, by the ways of entering
      induction he <;> exact ownerInv_moved hqt rfl
    | resume => exact ownerInv_moved ⟨trivial, trivial, hrun⟩ rfl
    | rwNone aid g t w pq pr hw => exact ownerInv_moved ⟨(hw ▸ wDeliver_inv hpc.1 (prov_mem hq) hf :), hrun⟩ rfl
    | rwGo aid g t w pq pr hw =>
      exact ownerInv_keepServed ⟨wDeliver_inv hpc.1 (prov_mem hq) hf, notRet_of_not_ret hw, hrun⟩
        fun _ => wait_keep_facts rfl rfl hpc.1 (prov_mem hq) hsv
    | rFailA => exact ownerInv_moved hpc rfl
    | addS =>
      cases List.mem_singleton.mp hq
      exact ownerInv_moved ⟨hpc, hf⟩ rfl
    | payGo aid g p pq pr hp =>
      have hp' := paying_deliver_inv hpc hrun (prov_mem hq) hf
      refine ownerInv_keepServed ?_ fun hs => ?_
      · generalize pDeliver _ p pq pr = p' at hp hp'
        cases p' with
        | retPay res => exact absurd rfl (hp res)
        | _ => exact hp'
      · cases p with
        | inWait f w =>
          exact wait_keep_facts rfl (congrArg _ (finishWait_outstanding f _)) hpc.2.1 (prov_mem hq) hsv
        | _ => cases hs
    | idle _ _ hnone => rw [hnone] at hq; cases hq
    | mismatch => exact ownerInv_keepServed hpc fun _ x hx _ _ => hsv x hx

end Tramp
