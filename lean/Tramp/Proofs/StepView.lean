/-
The transition system M7 seen as relations. `sstep` and `ownerCont` are functions defined by nested
matches; every invariant has to look at each way a step can succeed. That analysis is done here once
(`Step`, `OMove`).

A hypothesis in one of these relations (`EnvStep`, `Step`, `OMove`, `OStay`, `Enters`; likewise `WMove`, `PMove` of
Proofs/Provider) whose indices are variables is taken apart with `induction h with`, not `cases h with`: there is no
induction hypothesis (none of them is recursive), the recursor applies as it stands, and `cases` would first unify the
indices of all constructors, at three times the cost. So a walk over the ways a step succeeds opens with
`induction Step.of_sstep hs with`. Where an index is a concrete term (the action `.readParams`, the result `.stay pc'`)
only `cases` applies.
-/
import Tramp.Proofs.SysBasics

namespace Tramp

/-- steps that leave the table entry, its owner, the pay flag, the call counter and the panic flag alone -/
inductive EnvStep (s : SState) : SAct → SState → Prop
  | tickMono (dt : Nat) : EnvStep s (.tickMono dt) { s with mono := s.mono + dt }
  | tickWall (dt : Int) : EnvStep s (.tickWall dt) { s with wall := ((s.wall : Int) + dt).toNat }
  | block (n : Nat) : EnvStep s (.block n) { s with height := max s.height n }
  | create (id : Nat) (hrun : s.payRunning = true) (hnew : findPart s.parts id = none) :
      EnvStep s (.create id) { s with parts := s.parts ++ [{ id := id, st := .pending }] }
  | resolve (id : Nat) (st : PStatus) (hst : st ≠ .pending) :
      EnvStep s (.resolve id st) { s with parts := resolvePart s.parts id st }
  | bkServe {b : Bk} {ds : Option (DsVal × Nat)} {as : List Nat} {r : SReply} (id : Nat) (q : SReq)
      (hb : findBk s.bks id = some b) (hq : b.pc.request .current = q) (hnew : b.served = none)
      (hres : nodeServe s q = some ({ s with ds := ds, attempts := as }, r)) :
      EnvStep s (.serve (.bk id) q) { s with ds := ds, attempts := as, bks := setBk s.bks { b with served := some r } }
  | bkFault {b : Bk} {ds : Option (DsVal × Nat)} {as : List Nat} {r : SReply} (id : Nat) (q : SReq) (f : Fault)
      (hb : findBk s.bks id = some b) (hq : b.pc.request .current = q) (hnew : b.served = none)
      (hres : nodeFault s q f = some ({ s with ds := ds, attempts := as }, r)) :
      EnvStep s (.fault (.bk id) q f) { s with ds := ds, attempts := as, bks := setBk s.bks { b with served := some r } }
  | bkNext {b : Bk} {r : SReply} {pc' : BPc} (id : Nat) (q : SReq) (hb : findBk s.bks id = some b)
      (hq : b.pc.request .current = q) (hr : b.served = some r) (hk : bkCont b.pc r = some pc') :
      EnvStep s (.deliver (.bk id) q) { s with bks := setBk s.bks { b with pc := pc', served := none } }
  | bkDone {b : Bk} {r : SReply} (id : Nat) (q : SReq) (hb : findBk s.bks id = some b)
      (hq : b.pc.request .current = q) (hr : b.served = some r) (hk : bkCont b.pc r = none) :
      EnvStep s (.deliver (.bk id) q) { s with bks := dropBk s.bks id }

structure EnvStep.Frame (s s' : SState) : Prop where
  active : s'.active = s.active
  payRunning : s'.payRunning = s.payRunning
  nextInv : s'.nextInv = s.nextInv
  panicked : s'.panicked = s.panicked
  mono : s.mono ≤ s'.mono
  height : s.height ≤ s'.height

theorem EnvStep.frame {s s' : SState} {a : SAct} (h : EnvStep s a s') : EnvStep.Frame s s' := by
  induction h with
  | tickMono dt => exact ⟨rfl, rfl, rfl, rfl, Nat.le_add_right .., Nat.le_refl _⟩
  | block n => exact ⟨rfl, rfl, rfl, rfl, Nat.le_refl _, Nat.le_max_left ..⟩
  | _ => exact ⟨rfl, rfl, rfl, rfl, Nat.le_refl _, Nat.le_refl _⟩

/-- the ways a step of the current tree succeeds -/
inductive Step (c : Cfg) (s : SState) : SAct → SState → List Out → Prop
  | env {a : SAct} {s' : SState} (h : EnvStep s a s') : Step c s a s' []
  | crash : Step c s .crash { s with active := none, bks := [], payRunning := false } []
  | arriveNew (info : SInfo) (amount expiry : Nat) (relExp : Int) (total : Nat) (hact : s.active = none) :
      Step c s (.arrive info amount expiry relExp total)
        { s with active := some (((PEntry.new info).checks c info relExp total).add c ⟨s.nextInv, amount, expiry⟩,
                                 { pc := .fetch, served := [] }),
                 nextInv := s.nextInv + 1 } []
  | arrive {e : PEntry} {o : Owner} (info : SInfo) (amount expiry : Nat) (relExp : Int) (total : Nat)
      (hact : s.active = some (e, o)) :
      Step c s (.arrive info amount expiry relExp total)
        { s with active := some ((e.checks c info relExp total).add c ⟨s.nextInv, amount, expiry⟩, o),
                 nextInv := s.nextInv + 1 } []
  | payEnd {e : PEntry} {o : Owner} {aid g : Nat} (r : PReply) (hact : s.active = some (e, o))
      (hpc : o.pc = .paying aid g .paying) (hrun : s.payRunning = true)
      (hnew : lookupS o.served (.prov .pay) = none) (hok : payReplyOk s.parts r = true) :
      Step c s (.payEnd r)
        { s with payRunning := false,
                 active := some (e, { o with served := o.served ++ [(.prov .pay, .prov r)] }) } []
  | serveOwner {e : PEntry} {o : Owner} {ds : Option (DsVal × Nat)} {as : List Nat} {r : SReply} (q : SReq)
      (hact : s.active = some (e, o)) (hq : q ∈ o.pc.outstanding .current) (hnew : lookupS o.served q = none)
      (hnp : q ≠ .prov .pay) (hres : nodeServe s q = some ({ s with ds := ds, attempts := as }, r)) :
      Step c s (.serve .owner q)
        { s with ds := ds, attempts := as, active := some (e, { o with served := o.served ++ [(q, r)] }) } []
  | faultOwner {e : PEntry} {o : Owner} {ds : Option (DsVal × Nat)} {as : List Nat} {r : SReply} (q : SReq) (f : Fault)
      (hact : s.active = some (e, o)) (hq : q ∈ o.pc.outstanding .current) (hnew : lookupS o.served q = none)
      (hres : nodeFault s q f = some ({ s with ds := ds, attempts := as }, r)) :
      Step c s (.fault .owner q f)
        { s with ds := ds, attempts := as, active := some (e, { o with served := o.served ++ [(q, r)] }) } []
  | stay {e : PEntry} {o : Owner} {r : SReply} {pc' : OPc} (q : SReq) (hact : s.active = some (e, o))
      (hq : q ∈ o.pc.outstanding .current) (hr : lookupS o.served q = some r)
      (hn : ownerCont c .current s o.pc q r = .stay pc') :
      Step c s (.deliver .owner q)
        { s with active := some (e, { pc := pc', served := keepServed .current o.pc pc' o.served q }) } []
  | pay {e : PEntry} {o : Owner} {r : SReply} {pc' : OPc} {mf md : Nat} (q : SReq) (hact : s.active = some (e, o))
      (hq : q ∈ o.pc.outstanding .current) (hr : lookupS o.served q = some r)
      (hn : ownerCont c .current s o.pc q r = .pay pc' mf md) :
      Step c s (.deliver .owner q)
        { s with active := some (e, { pc := pc', served := [] }), payRunning := true } [payOut e mf md]
  | finish {e : PEntry} {o : Owner} {r : SReply} {r' : Resp} (q : SReq) (hact : s.active = some (e, o))
      (hq : q ∈ o.pc.outstanding .current) (hr : lookupS o.served q = some r)
      (hn : ownerCont c .current s o.pc q r = .finish r') :
      Step c s (.deliver .owner q) { s with active := none } (respAll e r')
  | finishBk {e : PEntry} {o : Owner} {r : SReply} {r' : Resp} {b : BPc} (q : SReq) (hact : s.active = some (e, o))
      (hq : q ∈ o.pc.outstanding .current) (hr : lookupS o.served q = some r)
      (hn : ownerCont c .current s o.pc q r = .finishBk r' b) :
      Step c s (.deliver .owner q)
        { s with active := none, bks := s.bks ++ [{ id := s.nextBk, pc := b, served := none }],
                 nextBk := s.nextBk + 1 } (respAll e r')
  | panic {e : PEntry} {o : Owner} {r : SReply} (q : SReq) (hact : s.active = some (e, o))
      (hq : q ∈ o.pc.outstanding .current) (hr : lookupS o.served q = some r)
      (hn : ownerCont c .current s o.pc q r = .panic) :
      Step c s (.deliver .owner q)
        { s with active := some (e, { pc := .panicked, served := [] }), panicked := true } []
  | timerFire {e : PEntry} {o : Owner} {d : Nat} (hact : s.active = some (e, o)) (hpc : o.pc = .waitHtlcs d)
      (hd : d ≤ s.mono) : Step c s .timerFire { s with active := none } (respAll e (.fail .ttf))
  | takeFail {e : PEntry} {o : Owner} {d : Nat} {r : Resp} (hact : s.active = some (e, o))
      (hpc : o.pc = .waitHtlcs d) (hbuf : e.failBuf = some r) :
      Step c s .takeFail { s with active := none } (respAll e r)
  | takeReady {e : PEntry} {o : Owner} {d : Nat} (hact : s.active = some (e, o)) (hpc : o.pc = .waitHtlcs d)
      (hbuf : e.readyBuf = true) :
      Step c s .takeReady
        { s with active := some ({ e with readyBuf := false }, { pc := .gotReady, served := [] }) } []
  | readParams {e : PEntry} {o : Owner} (hact : s.active = some (e, o)) (hpc : o.pc = .gotReady) :
      Step c s .readParams
        { s with active := some (e, { pc := .gotParams (e.received - e.info.amount) e.cltv, served := [] }) } []
  | readHeight {e : PEntry} {o : Owner} {mf exp : Nat} (hact : s.active = some (e, o))
      (hpc : o.pc = .gotParams mf exp) :
      Step c s .readHeight
        { s with active := some (e, { pc := .addS s.nextAid s.wall mf (maxDelay c exp s.height), served := [] }),
                 nextAid := s.nextAid + 1 } []

theorem stepServeOwner_some {s s' : SState} {q : SReq} {res : Option (SState × SReply)} {outs : List Out}
    (h : stepServeOwner .current s q res = some (s', outs)) :
    ∃ e o s1 r, s.active = some (e, o) ∧ q ∈ o.pc.outstanding .current ∧ lookupS o.served q = none ∧
      res = some (s1, r) ∧ s' = { s1 with active := some (e, { o with served := o.served ++ [(q, r)] }) } ∧
      outs = [] := by
  revert h
  fun_cases stepServeOwner .current s q res <;> intro h <;> cases h
  rename_i hc
  simp only [Bool.and_eq_true, List.contains_iff_mem, Option.isNone_iff_eq_none] at hc
  exact ⟨_, _, _, _, ‹_›, hc.1, hc.2, rfl, rfl, rfl⟩

theorem stepServeBk_some {s s' : SState} {id : Nat} {q : SReq} {res : Option (SState × SReply)} {outs : List Out}
    (h : stepServeBk .current s id q res = some (s', outs)) :
    ∃ b s1 r, findBk s.bks id = some b ∧ b.pc.request .current = q ∧ b.served = none ∧ res = some (s1, r) ∧
      s' = { s1 with bks := setBk s.bks { b with served := some r } } ∧ outs = [] := by
  revert h
  fun_cases stepServeBk .current s id q res <;> intro h <;> cases h
  rename_i hc
  simp only [Bool.and_eq_true, beq_iff_eq, Option.isNone_iff_eq_none] at hc
  exact ⟨_, _, _, ‹_›, hc.1, hc.2, rfl, rfl, rfl⟩

/-- every successful step is one of the constructors: the case analysis of `sstep`, done once -/
theorem Step.of_sstep {c : Cfg} {s s' : SState} {a : SAct} {outs : List Out}
    (h : sstep c .current s a = some (s', outs)) : Step c s a s' outs := by
  revert h
  -- one goal per branch of `sstep`, in its order, the guards of the branch as hypotheses; `cases h` closes a branch
  -- that returns `none` and puts the new state in where it is written out
  fun_cases sstep c .current s a <;> intro h <;> try cases h
  · simp only [stepArrive, SVariant.current, Bool.false_and, Bool.false_eq_true, if_false] at h
    split at h <;> cases h
    · exact .arriveNew _ _ _ _ _ ‹_›
    · exact .arrive _ _ _ _ _ ‹_›
  · exact .env (.tickMono _)
  · exact .env (.tickWall _)
  · exact .env (.block _)
  · exact .crash
  · rename_i hc
    simp only [Bool.and_eq_true, Option.isNone_iff_eq_none] at hc
    exact .env (.create _ hc.1 hc.2)
  · rename_i hc
    exact .env (.resolve _ _ (bne_iff_ne.mp hc))
  · rename_i o hact aid g hpc hc
    simp only [Bool.and_eq_true, Option.isNone_iff_eq_none] at hc
    obtain ⟨pc, served⟩ := o
    cases hpc
    exact .payEnd _ hact rfl hc.1.1 hc.1.2 hc.2
  · rename_i hnp
    obtain ⟨e, o, s1, r, hact, hq, hnew, hres, rfl, rfl⟩ := stepServeOwner_some h
    obtain ⟨ds, as, rfl⟩ := nodeServe_frame hres
    exact .serveOwner _ hact hq hnew (by simpa using hnp) hres
  · obtain ⟨b, s1, r, hb, hq, hnew, hres, rfl, rfl⟩ := stepServeBk_some h
    obtain ⟨ds, as, rfl⟩ := nodeServe_frame hres
    exact .env (.bkServe _ _ hb hq hnew hres)
  · obtain ⟨e, o, s1, r, hact, hq, hnew, hres, rfl, rfl⟩ := stepServeOwner_some h
    obtain ⟨ds, as, rfl⟩ := nodeFault_frame hres
    exact .faultOwner _ _ hact hq hnew hres
  · obtain ⟨b, s1, r, hb, hq, hnew, hres, rfl, rfl⟩ := stepServeBk_some h
    obtain ⟨ds, as, rfl⟩ := nodeFault_frame hres
    exact .env (.bkFault _ _ _ hb hq hnew hres)
  · revert h
    fun_cases stepDeliverOwner c .current s _ <;> intro h <;> try cases h
    rename_i e o hact hq r hr
    have hq := List.contains_iff_mem.mp hq
    cases hn : ownerCont c .current s o.pc _ r <;> rw [hn] at h <;> cases h
    · exact .stay _ hact hq hr hn
    · exact .pay _ hact hq hr hn
    · exact .finish _ hact hq hr hn
    · exact .finishBk _ hact hq hr hn
    · exact .panic _ hact hq hr hn
  · revert h
    fun_cases stepDeliverBk .current s _ _ <;> intro h <;> cases h
    · exact .env (.bkNext _ _ ‹_› (beq_iff_eq.mp ‹_›) ‹_› ‹_›)
    · exact .env (.bkDone _ _ ‹_› (beq_iff_eq.mp ‹_›) ‹_› ‹_›)
  · exact .timerFire ‹_› ‹_› ‹_›
  · exact .takeFail ‹_› ‹_› ‹_›
  · exact .takeReady ‹_› ‹_› ‹_›
  · exact .readParams ‹_› ‹_›
  · exact .readHeight ‹_› ‹_›

theorem sstep_deliver_owner (c : Cfg) {s : SState} {e : PEntry} {o : Owner} {q : SReq} {r : SReply}
    (hact : s.active = some (e, o)) (hq : q ∈ o.pc.outstanding .current) (hr : lookupS o.served q = some r) :
    sstep c .current s (.deliver .owner q) = some (applyONext .current s e o q (ownerCont c .current s o.pc q r)) := by
  simp [sstep, stepDeliverOwner, hact, hq, hr]

/-- conversely every `Step` is a step of the model: the constructors are how steps are built -/
theorem Step.sstep_eq {c : Cfg} {s s' : SState} {a : SAct} {outs : List Out} (h : Step c s a s' outs) :
    sstep c .current s a = some (s', outs) := by
  induction h with
  | env he =>
    induction he with
    | create id hrun hnew => simp [sstep, hrun, hnew]
    | resolve id st hst => simp [sstep, hst]
    | bkServe id q hb hq hnew hres | bkFault id q f hb hq hnew hres => simp [sstep, stepServeBk, hb, hq, hnew, hres]
    | bkNext id q hb hq hr hk | bkDone id q hb hq hr hk => simp [sstep, stepDeliverBk, hb, hq, hr, hk]
    | _ => rfl
  | crash => rfl
  | arriveNew _ _ _ _ _ hact | arrive _ _ _ _ _ hact => simp [sstep, stepArrive, SVariant.current, hact]
  | payEnd r hact hpc hrun hnew hok =>
    rename_i e o aid g
    obtain ⟨pc, served⟩ := o
    cases hpc
    simp [sstep, hact, hrun, hnew, hok]
  | serveOwner q hact hq hnew hnp hres => simp [sstep, stepServeOwner, hact, hq, hnew, hnp, hres]
  | faultOwner q f hact hq hnew hres => simp [sstep, stepServeOwner, hact, hq, hnew, hres]
  | stay q hact hq hr hn | pay q hact hq hr hn | finish q hact hq hr hn | finishBk q hact hq hr hn
  | panic q hact hq hr hn => rw [sstep_deliver_owner c hact hq hr, hn]; rfl
  | timerFire hact hpc h | takeFail hact hpc h | takeReady hact hpc h => simp [sstep, hact, hpc, h]
  | readParams hact hpc | readHeight hact hpc => simp [sstep, hact, hpc]

theorem Step.enabled {c : Cfg} {s s' : SState} {a : SAct} {outs : List Out} (h : Step c s a s' outs) :
    (sstep c .current s a).isSome = true := by
  rw [h.sstep_eq]
  rfl

theorem sstep_none {c : Cfg} {s : SState} {a : SAct} (h : ∀ s' outs, ¬ Step c s a s' outs) : sstep c .current s a = none :=
  Option.eq_none_iff_forall_ne_some.mpr fun (s', outs) hs => h s' outs (Step.of_sstep hs)

theorem Step.forward {c : Cfg} {s s' : SState} {a : SAct} {outs : List Out} (h : Step c s a s' outs) :
    s.nextInv ≤ s'.nextInv ∧ s.mono ≤ s'.mono ∧ s.height ≤ s'.height := by
  induction h with
  | env he => exact ⟨Nat.le_of_eq he.frame.nextInv.symm, he.frame.mono, he.frame.height⟩
  | arriveNew | arrive => exact ⟨Nat.le_succ _, Nat.le_refl _, Nat.le_refl _⟩
  | _ => exact ⟨Nat.le_refl _, Nat.le_refl _, Nat.le_refl _⟩

/-- the replies on which the owner enters the HTLC-wait phase, with the time left on the MPP timer -/
inductive Enters (c : Cfg) (s : SState) : OPc → SReply → Nat → Prop
  | fresh : Enters c s .fetch (.listed none) c.mppTimeout
  | free (g : Nat) : Enters c s .fetch (.listed (some (.free, g))) c.mppTimeout
  | restart (aid g t g' : Nat) : Enters c s (.rFailS aid g t) (.written g') (c.mppTimeout - (s.wall - t))

def OPc.awaitsWrite : OPc → Prop
  | .rFailA _ _ _ | .rFailS _ _ _ | .addS _ _ _ _ | .addA _ _ _ _ => True
  | _ => False

/-- the moves after which the lifecycle goes on: the owner enters the HTLC wait with time left, starts or continues the
    wait of the restart path, goes from one write to the next, goes on inside the pay wrapper; or the reply is not one
    it consumes -/
inductive OStay (c : Cfg) (v : SVariant) (s : SState) : OPc → SReq → SReply → OPc → Prop
  | wait {pc : OPc} {r : SReply} {tl : Nat} (q : SReq) (h : Enters c s pc r tl) (htl : tl ≠ 0) :
      OStay c v s pc q r (.waitHtlcs (s.mono + tl))
  | resume (q : SReq) (aid g t : Nat) :
      OStay c v s .fetch q (.listed (some (.pending aid t, g))) (.rWait aid g t (WPc.start v.prov))
  | rwNone (aid g t : Nat) (w : WPc) (pq : PReq) (pr : PReply) (hw : wDeliver w pq pr = .ret .none) :
      OStay c v s (.rWait aid g t w) (.prov pq) (.prov pr) (.rFailA aid g t)
  | rwGo (aid g t : Nat) (w : WPc) (pq : PReq) (pr : PReply) (hw : ∀ res, wDeliver w pq pr ≠ .ret res) :
      OStay c v s (.rWait aid g t w) (.prov pq) (.prov pr) (.rWait aid g t (wDeliver w pq pr))
  | rFailA (q : SReq) (aid g t g' : Nat) : OStay c v s (.rFailA aid g t) q (.written g') (.rFailS aid g t)
  | addS (q : SReq) (aid t mf md g : Nat) : OStay c v s (.addS aid t mf md) q (.written g) (.addA aid g mf md)
  | payGo (aid g : Nat) (p : PPc) (pq : PReq) (pr : PReply) (hp : ∀ res, pDeliver v.prov p pq pr ≠ .retPay res) :
      OStay c v s (.paying aid g p) (.prov pq) (.prov pr) (.paying aid g (pDeliver v.prov p pq pr))
  -- the last two cannot happen for a parked reply in a reachable state (`q` is outstanding and `OFact` gives the
  -- reply its kind); they make the relation total, so that facts which need no invariant can use it
  | idle {pc : OPc} (q : SReq) (r : SReply) (hpc : pc.outstanding v = []) : OStay c v s pc q r pc
  | mismatch {pc : OPc} (q : SReq) (r : SReply) (hpc : ∀ q' ∈ pc.outstanding v, ∃ pq, q' = .prov pq)
      (hr : ∀ pq pr, q = .prov pq → r ≠ .prov pr) : OStay c v s pc q r pc

/-- what the owner does when the reply `r` to its request `q` arrives at `pc` -/
inductive OMove (c : Cfg) (v : SVariant) (s : SState) : OPc → SReq → SReply → ONext → Prop
  | stay {pc pc' : OPc} {q : SReq} {r : SReply} (h : OStay c v s pc q r pc') : OMove c v s pc q r (.stay pc')
  | timeUp {pc : OPc} {r : SReply} (q : SReq) (h : Enters c s pc r 0) : OMove c v s pc q r (.finish (.fail .ttf))
  | settled (q : SReq) (pre g : Nat) :
      OMove c v s .fetch q (.listed (some (.succeeded pre, g))) (.finish (.resolve pre))
  | fetchErr (q : SReq) (r : SReply) (hr : ∀ cell, r ≠ .listed cell) : OMove c v s .fetch q r (.finish (.fail .tnf))
  | rwSome {pre : Nat} (aid g t : Nat) (w : WPc) (pq : PReq) (pr : PReply) (hw : wDeliver w pq pr = .ret (.some pre)) :
      OMove c v s (.rWait aid g t w) (.prov pq) (.prov pr) (.finishBk (.resolve pre) (.succS aid pre))
  | rwErr (aid g t : Nat) (w : WPc) (pq : PReq) (pr : PReply) (hw : wDeliver w pq pr = .ret .err) :
      OMove c v s (.rWait aid g t w) (.prov pq) (.prov pr) .panic
  | addA (q : SReq) (aid g mf md g' : Nat) :
      OMove c v s (.addA aid g mf md) q (.written g') (.pay (.paying aid g .paying) mf md)
  | writeErr {pc : OPc} (q : SReq) (r : SReply) (hpc : pc.awaitsWrite) (hr : ∀ g, r ≠ .written g) :
      OMove c v s pc q r (.finish (.fail .tnf))
  | payOk {pre : Nat} (aid g : Nat) (p : PPc) (pq : PReq) (pr : PReply) (hp : pDeliver v.prov p pq pr = .retPay (.ok pre)) :
      OMove c v s (.paying aid g p) (.prov pq) (.prov pr) (.finishBk (.resolve pre) (.succS aid pre))
  | payErr (aid g : Nat) (p : PPc) (pq : PReq) (pr : PReply) (hp : pDeliver v.prov p pq pr = .retPay .err) :
      OMove c v s (.paying aid g p) (.prov pq) (.prov pr) (.finishBk (.fail .ttf) (.failA aid g))

theorem enterWait_move {c : Cfg} {v : SVariant} {s : SState} {pc : OPc} {r : SReply} {tl : Nat} (q : SReq)
    (h : Enters c s pc r tl) : OMove c v s pc q r (enterWait s tl) := by
  unfold enterWait
  split
  · rename_i h0; subst h0; exact .timeUp q h
  · exact .stay (.wait q h ‹_›)

theorem ownerCont_move (c : Cfg) (v : SVariant) (s : SState) (pc : OPc) (q : SReq) (r : SReply) :
    OMove c v s pc q r (ownerCont c v s pc q r) := by
  cases pc with
  | fetch =>
    cases r with
    | listed cell =>
      match cell with
      | none => exact enterWait_move q .fresh
      | some (.free, g) => exact enterWait_move q (.free g)
      | some (.pending aid t, g) => exact .stay (.resume q aid g t)
      | some (.succeeded pre, g) => exact .settled q pre g
    | _ => exact .fetchErr q _ (by intro cell h; cases h)
  | rWait aid g t w =>
    cases r with
    | prov pr =>
      cases q with
      | prov pq =>
        show OMove c v s _ _ _ (afterRestartWait aid g t (wDeliver w pq pr))
        cases hw : wDeliver w pq pr with
        | ret res =>
          cases res with
          | some pre => exact .rwSome aid g t w pq pr hw
          | none => exact .stay (.rwNone aid g t w pq pr hw)
          | err => exact .rwErr aid g t w pq pr hw
        | _ =>
          have := OStay.rwGo (c := c) (v := v) (s := s) aid g t w pq pr (by intro res h; rw [hw] at h; cases h)
          rw [hw] at this; exact .stay this
      | _ => exact .stay (.mismatch _ _ (fun _ => eq_prov_of_mem_map) (by intro pq pr h; cases h))
    | _ => exact .stay (.mismatch _ _ (fun _ => eq_prov_of_mem_map) (by intro pq pr _ h; cases h))
  | rFailA aid g t =>
    cases r with
    | written g' => exact .stay (.rFailA q aid g t g')
    | _ => exact .writeErr q _ trivial (by intro g h; cases h)
  | rFailS aid g t =>
    cases r with
    | written g' => exact enterWait_move q (.restart aid g t g')
    | _ => exact .writeErr q _ trivial (by intro g h; cases h)
  | addS aid t mf md =>
    cases r with
    | written g => exact .stay (.addS q aid t mf md g)
    | _ => exact .writeErr q _ trivial (by intro g h; cases h)
  | addA aid g mf md =>
    cases r with
    | written g' => exact .addA q aid g mf md g'
    | _ => exact .writeErr q _ trivial (by intro g h; cases h)
  | paying aid g p =>
    cases r with
    | prov pr =>
      cases q with
      | prov pq =>
        show OMove c v s _ _ _ (afterPay aid g (pDeliver v.prov p pq pr))
        cases hp : pDeliver v.prov p pq pr with
        | retPay res =>
          cases res with
          | ok pre => exact .payOk aid g p pq pr hp
          | err => exact .payErr aid g p pq pr hp
        | _ =>
          have := OStay.payGo (c := c) (s := s) aid g p pq pr (by intro res h; rw [hp] at h; cases h)
          rw [hp] at this; exact .stay this
      | _ => exact .stay (.mismatch _ _ (fun _ => eq_prov_of_mem_map) (by intro pq pr h; cases h))
    | _ => exact .stay (.mismatch _ _ (fun _ => eq_prov_of_mem_map) (by intro pq pr _ h; cases h))
  | waitHtlcs | gotReady | gotParams | panicked => cases r <;> exact .stay (.idle q _ rfl)

/-- only the acknowledgement of the attempt record issues the pay request, with the budget and the
    delay that the program counter stored -/
theorem ownerCont_pay {c : Cfg} {v : SVariant} {s : SState} {pc pc' : OPc} {q : SReq} {r : SReply} {mf md : Nat}
    (hn : ownerCont c v s pc q r = .pay pc' mf md) : ∃ aid g, pc = .addA aid g mf md ∧ pc' = .paying aid g .paying := by
  have hm := ownerCont_move c v s pc q r
  rw [hn] at hm
  cases hm
  exact ⟨_, _, rfl, rfl⟩

theorem ownerCont_stay {c : Cfg} {v : SVariant} {s : SState} {pc pc' : OPc} {q : SReq} {r : SReply}
    (hn : ownerCont c v s pc q r = .stay pc') : OStay c v s pc q r pc' := by
  have hm := ownerCont_move c v s pc q r
  rw [hn] at hm
  cases hm with
  | stay h => exact h

end Tramp
