/- Over a whole run no `htlc_accepted` call is answered twice (C06 "exactly one response", the
   at-most-once half at the level of histories; C07's "one resolution per set" is its by-product).
   Ids are allocated from a counter, a held call is in the listener list of the one active entry,
   and answering removes the entry. -/
import Tramp.Proofs.SysRun
import Tramp.Proofs.SysEntry
import Tramp.Proofs.SysStep

namespace Tramp

def respIds (outs : List Out) : List Nat :=
  outs.filterMap fun o => match o with
    | .resp i _ => some i.id
    | _ => none

theorem respIds_append (a b : List Out) : respIds (a ++ b) = respIds a ++ respIds b :=
  List.filterMap_append

theorem mem_respIds {outs : List Out} {i : Inv} {r : Resp} (h : Out.resp i r ∈ outs) : i.id ∈ respIds outs :=
  List.mem_filterMap.mpr ⟨_, h, rfl⟩

theorem respIds_respAll (e : PEntry) (r : Resp) : respIds (respAll e r) = e.listeners.map (·.id) := by
  unfold respIds respAll
  rw [List.filterMap_map]
  exact congrFun (List.filterMap_eq_map (f := Inv.id)) e.listeners

/-- what a step does to the calls that are held: they stay held, joined at most by the call that just
    arrived (it got the counter's value), and nobody is answered; or all of them are answered and the
    entry goes -/
inductive LStep (s s' : SState) (outs : List Out) : Prop
  | hold (hn : s.nextInv ≤ s'.nextInv) (ho : respIds outs = [])
      (hl : ∀ e' o', s'.active = some (e', o') → ∀ i ∈ e'.listeners,
        (∃ e o, s.active = some (e, o) ∧ i ∈ e.listeners) ∨ i.id = s.nextInv)
  | answer {e : PEntry} {o : Owner} (r : Resp) (hact : s.active = some (e, o)) (ha' : s'.active = none)
      (hn : s'.nextInv = s.nextInv) (ho : outs = respAll e r)

theorem LStep.same {s s' : SState} {outs : List Out} {e e' : PEntry} {o o' : Owner} (hact : s.active = some (e, o))
    (ha' : s'.active = some (e', o')) (hl : e'.listeners = e.listeners) (hn : s'.nextInv = s.nextInv)
    (ho : respIds outs = []) : LStep s s' outs :=
  .hold (Nat.le_of_eq hn.symm) ho fun e1 o1 h1 i hi => by
    rw [ha'] at h1
    cases h1
    exact .inl ⟨e, o, hact, hl ▸ hi⟩

theorem sstep_lstep (c : Cfg) {s s' : SState} {outs : List Out} (a : SAct)
    (hs : sstep c .current s a = some (s', outs)) : LStep s s' outs := by
  induction Step.of_sstep hs with
  | env he =>
    exact .hold (Nat.le_of_eq he.frame.nextInv.symm) rfl fun e' o' ha' i hi => .inl ⟨e', o', he.frame.active ▸ ha', hi⟩
  | crash => exact .hold (Nat.le_refl _) rfl fun _ _ ha' => nomatch ha'
  | arriveNew =>
    refine .hold (Nat.le_succ _) rfl fun e' o' ha' i hi => ?_
    cases ha'
    exact (mem_arrive hi).elim (fun h => nomatch h) fun h => .inr (congrArg Inv.id h)
  | arrive _ _ _ _ _ hact =>
    refine .hold (Nat.le_succ _) rfl fun e' o' ha' i hi => ?_
    cases ha'
    exact (mem_arrive hi).imp (fun h => ⟨_, _, hact, h⟩) (congrArg Inv.id)
  | payEnd _ hact | serveOwner _ hact | faultOwner _ _ hact | stay _ hact | pay _ hact | panic _ hact
  | takeReady hact | readParams hact | readHeight hact =>
    exact .same hact rfl rfl rfl rfl
  | finish _ hact | finishBk _ hact | timerFire hact | takeFail hact => exact .answer _ hact rfl rfl rfl

/-- what has been answered so far (`past`) against the current state -/
structure Once (s : SState) (past : List Nat) : Prop where
  nodup : past.Nodup
  below : ∀ x ∈ past, x < s.nextInv
  fresh : ∀ e o, s.active = some (e, o) → ∀ i ∈ e.listeners, i.id ∉ past

theorem once_init : Once SState.init [] :=
  ⟨List.nodup_nil, (fun _ h => nomatch h), (fun _ _ h => nomatch h)⟩

/-- one step of any kind extends the history of answers without repeating an id: the entry invariant
    says that the held calls have distinct ids below the counter -/
theorem Once.step {c : Cfg} {s s' : SState} {a : SAct} {outs : List Out} {past : List Nat} (ho : Once s past)
    (he : EInvS c s) (hs : sstep c .current s a = some (s', outs)) : Once s' (past ++ respIds outs) := by
  cases sstep_lstep c a hs with
  | hold hn hsil hl =>
    rw [hsil, List.append_nil]
    refine ⟨ho.nodup, fun x hx => Nat.lt_of_lt_of_le (ho.below x hx) hn, fun e' o' ha' i hi hmem => ?_⟩
    rcases hl e' o' ha' i hi with ⟨e, o, ha, hi0⟩ | hid
    · exact ho.fresh e o ha i hi0 hmem
    · exact Nat.lt_irrefl _ (hid ▸ ho.below _ hmem)
  | @answer e o r hact hnone hn hout =>
    have hids := (he e o hact).ids
    rw [hout, respIds_respAll]
    refine ⟨List.nodup_append.mpr ⟨ho.nodup, hids.1, ?_⟩, fun x hx => ?_, fun e' o' ha' => nomatch hnone.symm.trans ha'⟩
    · intro x hx y hy hxy
      subst hxy
      obtain ⟨i, hi, rfl⟩ := List.mem_map.mp hy
      exact ho.fresh e o hact i hi hx
    · rw [hn]
      rcases List.mem_append.mp hx with hx | hx
      · exact ho.below x hx
      · obtain ⟨i, hi, rfl⟩ := List.mem_map.mp hx
        exact hids.2 i hi

/-- over any run whatever — any interleaving, crash points, faults of every kind — the ids answered are
    pairwise distinct -/
theorem Once.run {c : Cfg} {s s' : SState} {past : List Nat} {outs : List Out} (ho : Once s past) (he : EInvS c s)
    (hb : RecvBounded s) (acts : List SAct) (hr : srunO c .current s acts = some (s', outs)) :
    Once s' (past ++ respIds outs) := by
  refine (srunO_induction (P := fun s o => EInvS c s ∧ RecvBounded s ∧ Once s (past ++ respIds o)) (A := fun _ => True) ?_
    acts s s' [] outs ⟨he, hb, (List.append_nil past).symm ▸ ho⟩ (fun _ _ => trivial) hr).2.2
  intro s a s' _ _ ⟨he, hb, ho⟩ _ hs
  rw [respIds_append, ← List.append_assoc]
  exact ⟨(estep_inv c a he hb hs).1, (estep_inv c a he hb hs).2, ho.step he hs⟩

/-- `Once.step` and `Once.run` under the names, and with the hypotheses, that `bin/check` audits for C06; `h` and `hf` are not
    needed -/
theorem once_step (c : Cfg) {s s' : SState} {outs : List Out} {past : List Nat} (a : SAct)
    (h : SInv .current s) (he : EInvS c s) (ho : Once s past)
    (hs : sstep c .current s a = some (s', outs)) : Once s' (past ++ respIds outs) :=
  ho.step he hs

theorem once_run (c : Cfg) (acts : List SAct) (s s' : SState) (past : List Nat) (outs : List Out)
    (h : SInv .current s) (he : EInvS c s) (hb : RecvBounded s) (ho : Once s past) (hf : WriteFaultsOnly acts)
    (hr : srunO c .current s acts = some (s', outs)) : Once s' (past ++ respIds outs) :=
  ho.run he hb acts hr

end Tramp
