/- A lifecycle cannot run forever on the plugin's side: every step the owner task takes — consuming
   the reply to one of its outstanding requests, or an internal step (`select!` branch, reading the
   parameters, reading the height) — either ends the lifecycle or strictly decreases a well-founded
   measure of its program counter (lexicographic: phase of the lifecycle, then number of
   `waitsendpay` calls still outstanding). Together with `c06_owner_progress` (a live owner always
   has a request in flight, an enabled internal step, or an armed timer) this is the plugin's half of
   "every call is eventually answered provided the node keeps answering" (C06). -/
import Tramp.Proofs.StepView

namespace Tramp

theorem lex_wf {α β : Type} {r : α → α → Prop} {s : β → β → Prop} (hr : WellFounded r) (hs : WellFounded s) :
    WellFounded fun a b : α × β => r a.1 b.1 ∨ (a.1 = b.1 ∧ s a.2 b.2) := by
  refine Subrelation.wf (r := Prod.Lex r s) (fun {a b} hab => ?_) (Prod.lex ⟨r, hr⟩ ⟨s, hs⟩).wf
  obtain ⟨a1, a2⟩ := a; obtain ⟨b1, b2⟩ := b
  rcases hab with h1 | ⟨h1, h2⟩
  · exact Prod.Lex.left _ _ h1
  · cases h1; exact Prod.Lex.right _ h2

theorem no_infinite_descent {α : Type} {r : α → α → Prop} (hwf : WellFounded r) (f : Nat → α)
    (h : ∀ n, r (f (n + 1)) (f n)) : False := by
  have hacc : ∀ x, Acc r x → ∀ n, f n = x → False := by
    intro x hx
    induction hx with
    | intro x _ ih => intro n hn; exact ih (f (n + 1)) (hn ▸ h n) (n + 1) rfl
  exact hacc _ (hwf.apply _) 0 rfl

/-- one listed position of a vector decreases in a well-founded order, the other listed positions stay:
    that is well-founded (induction on the list, lexicographic product) -/
theorem wf_one_position {ι α : Type} {r : α → α → Prop} (hr : WellFounded r) :
    ∀ H : List ι, WellFounded fun f' f : ι → α => ∃ h ∈ H, r (f' h) (f h) ∧ ∀ k ∈ H, k ≠ h → f' k = f k
  | [] => ⟨fun f => Acc.intro f fun _ ⟨_, hh, _⟩ => nomatch hh⟩
  | h0 :: H => by
    refine Subrelation.wf (r := InvImage (Prod.Lex r _) fun f : ι → α => (f h0, f)) ?_
      (InvImage.wf _ (Prod.lex ⟨r, hr⟩ ⟨_, wf_one_position hr H⟩).wf)
    intro f' f ⟨h, hh, hlt, hothers⟩
    by_cases he : h = h0
    · subst he; exact .left _ _ hlt
    · have hhH : h ∈ H := (List.mem_cons.mp hh).resolve_left he
      show Prod.Lex r _ (f' h0, f') (f h0, f)
      rw [hothers h0 (List.mem_cons_self ..) (Ne.symm he)]
      exact .right _ ⟨h, hhH, hlt, fun k hk => hothers k (List.mem_cons_of_mem _ hk)⟩

def lt2 (a b : Nat × Nat) : Prop := a.1 < b.1 ∨ (a.1 = b.1 ∧ a.2 < b.2)

theorem lt2_wf : WellFounded lt2 := lex_wf Nat.lt_wfRel.wf Nat.lt_wfRel.wf

theorem lt2_add {a b : Nat × Nat} (k : Nat) (h : lt2 a b) : lt2 (k + a.1, a.2) (k + b.1, b.2) :=
  h.imp (Nat.add_lt_add_left · k) fun h => ⟨congrArg (k + ·) h.1, h.2⟩

def noneCount (x : Option (Option (List Nat))) : Nat := if x.isNone then 1 else 0

def WPc.meas : WPc → Nat × Nat
  | .seqPending    => (3, 0)
  | .seqComplete _ => (2, 0)
  | .conc c p      => (2, noneCount c + noneCount p)
  | .waiting rem   => (1, rem.length)
  | .ret _         => (0, 0)

def PPc.meas : PPc → Nat × Nat
  | .paying     => (6, 0)
  | .inWait _ w => (1 + w.meas.1, w.meas.2)
  | .retWait _  => (0, 0)
  | .retPay _   => (0, 0)

/-- measure of the lifecycle's program counter: the phases in the order the task passes through them, spaced so that
    every move lands strictly lower (a restarted wait is at most 20 + 3 < 30, the pay wrapper at most 6 < 8) -/
def OPc.meas : OPc → Nat × Nat
  | .fetch          => (30, 0)
  | .rWait _ _ _ w  => (20 + w.meas.1, w.meas.2)
  | .rFailA _ _ _   => (14, 0)
  | .rFailS _ _ _   => (13, 0)
  | .waitHtlcs _    => (12, 0)
  | .gotReady       => (11, 0)
  | .gotParams _ _  => (10, 0)
  | .addS _ _ _ _   => (9, 0)
  | .addA _ _ _ _   => (8, 0)
  | .paying _ _ p   => p.meas
  | .panicked       => (0, 0)

theorem afterListings_meas (pres pend : List Nat) : (afterListings pres pend).meas.1 ≤ 1 := by
  rcases afterListings_cases pres pend with ⟨res, h⟩ | ⟨_, h⟩ <;> rw [h]
  · exact Nat.zero_le 1
  · exact Nat.le_refl 1

theorem concJoin_meas {c p : Option (Option (List Nat))} {k : Nat} (hk : noneCount c + noneCount p < k) :
    lt2 (concJoin c p).meas (2, k) := by
  unfold concJoin
  split
  · exact .inl (Nat.lt_succ_of_le (afterListings_meas _ _))
  · exact .inl (by decide : 0 < 2)
  · exact .inl (by decide : 0 < 2)
  · exact .inr ⟨rfl, hk⟩

theorem WPc.meas_pos {w : WPc} {q : PReq} (hq : q ∈ w.outstanding) : 0 < w.meas.1 := by
  cases w with
  | ret res => cases hq
  | _ => exact Nat.succ_pos _

theorem WMove.meas_lt {w w' : WPc} {q : PReq} {r : PReply} (h : WMove w q r w') : lt2 w'.meas w.meas := by
  induction h with
  | ret hq => exact .inl (WPc.meas_pos hq)
  | listed => exact .inl (by decide : 2 < 3)
  | wait => exact .inl (by decide : 1 < 2)
  | @next rem id hid =>
    refine .inr ⟨rfl, ?_⟩
    show (rem.erase id).length < rem.length
    rw [List.length_erase_of_mem hid]
    exact Nat.sub_lt (List.length_pos_of_mem hid) Nat.one_pos
  | concC => exact concJoin_meas (Nat.add_lt_add_right Nat.zero_lt_one _)
  | concP => exact concJoin_meas (Nat.add_lt_add_left Nat.zero_lt_one _)

theorem start_meas (v : Variant) : (WPc.start v).meas.1 ≤ 3 := by
  unfold WPc.start; split <;> decide

theorem PPc.meas_pos {p : PPc} {q : PReq} (hq : q ∈ p.outstanding) : 0 < p.meas.1 := by
  cases p with
  | paying => decide
  | inWait f w => exact Nat.lt_of_lt_of_le Nat.one_pos (Nat.le_add_right 1 _)
  | _ => cases hq

theorem PMove.meas_lt {v : Variant} {p p' : PPc} {q : PReq} {r : PReply} (h : PMove v p q r p') : lt2 p'.meas p.meas := by
  induction h with
  | retPay hq | retWait hq => exact .inl (PPc.meas_pos hq)
  | enter => exact .inl (Nat.lt_of_le_of_lt (Nat.add_le_add_left (start_meas v) 1) (by decide : 4 < 6))
  | inside hw => exact lt2_add 1 hw.meas_lt

/-- Every continuation of the owner after the reply to an OUTSTANDING request either ends the
    lifecycle (answers everybody / hands over to a bookkeeper / the K4 panic) or moves to a program
    counter of strictly smaller measure. -/
theorem ownerCont_meas {c : Cfg} {v : SVariant} {s : SState} {pc pc' : OPc} {q : SReq} {r : SReply}
    (hq : q ∈ pc.outstanding v) (hm : ∀ pq, q = .prov pq → ∃ pr, r = .prov pr)
    (hn : ownerCont c v s pc q r = .stay pc' ∨ ∃ mf md, ownerCont c v s pc q r = .pay pc' mf md) :
    lt2 pc'.meas pc.meas := by
  rcases hn with hn | ⟨mf, md, hn⟩
  · induction ownerCont_stay hn with
    | wait _ he =>
      induction he with
      | fresh | free => exact .inl (by decide : 12 < 30)
      | restart => exact .inl (by decide : 12 < 13)
    | resume => exact .inl (Nat.lt_of_le_of_lt (Nat.add_le_add_left (start_meas v.prov) 20) (by decide : 23 < 30))
    | rwNone => exact .inl (Nat.lt_of_lt_of_le (by decide : 14 < 20) (Nat.le_add_right 20 _))
    | rwGo aid g t w pq pr => exact lt2_add 20 (wDeliver_move pr (prov_mem hq)).meas_lt
    | rFailA => exact .inl (by decide : 13 < 14)
    | addS => exact .inl (by decide : 8 < 9)
    | payGo aid g p pq pr => exact (pDeliver_move v.prov pr (prov_mem hq)).meas_lt
    | idle _ _ hpc => rw [hpc] at hq; cases hq
    | mismatch q _ hpc hr =>
      obtain ⟨pq, rfl⟩ := hpc q hq
      obtain ⟨pr, rfl⟩ := hm pq rfl
      exact absurd rfl (hr pq pr rfl)
  · obtain ⟨_, _, rfl, rfl⟩ := ownerCont_pay hn
    exact .inl (by decide : 6 < 8)

end Tramp
