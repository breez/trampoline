/- List lemmas that core does not have, used by the part table, the parked replies and the bookkeeper list alike:
   lookup by a key (`find?_key`, `lookup_mem`), distinct keys (`nodup_map_inj`), appending one element (`nodup_snoc`,
   `fresh_snoc`). -/

namespace Tramp

theorem find?_key {α β : Type} [BEq β] [LawfulBEq β] {f : α → β} {l : List α} {k : β} {a : α}
    (h : l.find? (fun x => f x == k) = some a) : a ∈ l ∧ f a = k :=
  have hk := List.find?_some h
  ⟨List.mem_of_find?_eq_some h, eq_of_beq hk⟩

/-- `lookupServed` and `lookupS` return a reply that is parked with its request -/
theorem lookup_mem {α β : Type} [BEq α] [LawfulBEq α] {l : List (α × β)} {q : α} {r : β}
    (h : (l.find? (fun x => x.1 == q)).map (·.2) = some r) : (q, r) ∈ l := by
  obtain ⟨x, hx, rfl⟩ := Option.map_eq_some_iff.mp h
  obtain ⟨hmem, rfl⟩ := find?_key (f := Prod.fst) hx
  exact hmem

theorem nodup_map_inj {α β : Type} {f : α → β} {l : List α} (hn : (l.map f).Nodup) {a b : α} (ha : a ∈ l) (hb : b ∈ l)
    (h : f a = f b) : a = b := by
  induction l with
  | nil => cases ha
  | cons c l ih =>
    obtain ⟨hc, hn⟩ := List.nodup_cons.mp hn
    rcases List.mem_cons.mp ha with rfl | ha' <;> rcases List.mem_cons.mp hb with rfl | hb'
    · rfl
    · exact absurd (List.mem_map.mpr ⟨b, hb', h.symm⟩) hc
    · exact absurd (List.mem_map.mpr ⟨a, ha', h⟩) hc
    · exact ih hn ha' hb'

theorem nodup_snoc {α : Type} {l : List α} {a : α} (h : l.Nodup) (ha : a ∉ l) : (l ++ [a]).Nodup :=
  List.nodup_append.mpr ⟨h, List.nodup_cons.mpr ⟨List.not_mem_nil, List.nodup_nil⟩,
    fun _ hx _ hy he => ha (List.mem_singleton.mp hy ▸ he ▸ hx)⟩

/-- numbering from a counter: the new element gets the counter's value, which lies above all the others -/
theorem fresh_snoc {α : Type} {f : α → Nat} {l : List α} {n : Nat} (h : (l.map f).Nodup ∧ ∀ x ∈ l, f x < n) {a : α}
    (ha : f a = n) : ((l ++ [a]).map f).Nodup ∧ ∀ x ∈ l ++ [a], f x < n + 1 := by
  refine ⟨?_, fun x hx => (List.mem_append.mp hx).elim (fun hx => Nat.lt_succ_of_lt (h.2 x hx)) fun hx => ?_⟩
  · rw [List.map_append]
    refine nodup_snoc h.1 fun hmem => ?_
    obtain ⟨y, hy, hid⟩ := List.mem_map.mp hmem
    exact Nat.lt_irrefl _ (ha ▸ hid ▸ h.2 y hy)
  · cases List.mem_singleton.mp hx
    exact ha ▸ Nat.lt_succ_self _

end Tramp
