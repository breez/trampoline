/- M3: what `default_response` returns, and the classification of a request as one three-way case analysis
   (`classify_cases`). -/
import Tramp.Model.Classify
import Tramp.Proofs.Tlv

namespace Tramp

theorem defaultResponse_cont (pl : List Entry) : ∃ p, defaultResponse pl = .cont p := by
  fun_cases defaultResponse pl <;> exact ⟨_, rfl⟩

theorem defaultResponse_some (pl : List Entry) (p : Bytes) (h : defaultResponse pl = .cont (some p)) :
    ∃ pre e post, pl = pre ++ e :: post ∧ e.typ = TLV_PAYMENT_METADATA ∧
      (∀ x ∈ pre, x.typ ≠ TLV_PAYMENT_METADATA) ∧ p = toBytes (pre ++ post) := by
  revert h
  fun_cases defaultResponse pl with
  | case2 e he =>
    intro h
    cases h
    have ⟨ht, pre, post, hpl, hpre⟩ := getEntry_eq_some he
    exact ⟨pre, e, post, hpl, ht, hpre, by rw [hpl, removeEntry_append hpre ht]⟩
  | _ => nofun

/-- The three outcomes of `check_htlc` + the `forward_msat` test: the default response; or, for a
    request without short channel id whose trampoline info extracts, the self-route-hint failure or
    "trampoline". -/
theorem classify_cases (parse : Bytes → Option InvoiceView) (allow : Bool) (req : Req) :
    classify parse allow req = defaultResponse req.onion.payload ∨
    ∃ i, req.onion.hasScid = false ∧ extractWith true parse req = .info i ∧
      (classify parse allow req = .failTNF ∧ i.inv.selfLastHop = true ∧ allow = false ∨
       ∃ f, classify parse allow req = .tramp i f ∧ req.onion.forwardMsat = some f ∧
         ¬ (i.inv.selfLastHop = true ∧ allow = false)) := by
  unfold classify
  fun_cases classifyWith true parse allow req with
  | case4 hsc i hex hs =>
    exact .inr ⟨i, Bool.eq_false_iff.mpr hsc, hex, .inl ⟨rfl, by simpa using hs⟩⟩
  | case6 hsc i hex hs f hf =>
    exact .inr ⟨i, Bool.eq_false_iff.mpr hsc, hex, .inr ⟨f, rfl, hf, by simpa using hs⟩⟩
  | _ => exact .inl rfl

theorem extract_info_iff (parse : Bytes → Option InvoiceView) (req : Req) (i : Info) :
    extractWith true parse req = .info i ↔
    ∃ mdE md invE v a,
      getEntry req.onion.payload TLV_PAYMENT_METADATA = some mdE ∧
      fromBytes mdE.value = .ok md ∧
      getEntry md TLV_TRAMPOLINE_INVOICE = some invE ∧
      parse invE.value = some v ∧
      v.sigOk = true ∧
      v.hash = req.htlc.hash ∧
      reconcileAmount v.amount (tlvAmount md) = some a ∧
      i = { bolt11 := invE.value, amount := a, inv := v } := by
  constructor
  · fun_cases extractWith true parse req with
    | case7 mdE h1 md h2 invE h3 v h4 hs hh a h5 =>
      intro h
      cases h
      exact ⟨mdE, md, invE, v, a, h1, h2, h3, h4, by simpa using hs, by simpa using hh, h5, rfl⟩
    | _ => nofun
  · rintro ⟨mdE, md, invE, v, a, h1, h2, h3, h4, hs, hh, h5, rfl⟩
    simp [extractWith, h1, h2, h3, h4, hs, hh, h5]

end Tramp
