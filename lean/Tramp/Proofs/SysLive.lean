/- Support invariant for deadlock freedom: whatever the owner is waiting for can be provided by the
   node — a pay command it waits on is still running or has already answered, and every part it
   waits on (or is about to wait on) exists in the node's table. Inductive under every action in a state where
   `SInv` holds (so along runs with write faults only). -/
import Tramp.Proofs.SysStep

namespace Tramp

theorem EnvStep.has {s s' : SState} {a : SAct} (h : EnvStep s a s') (id : Nat) (hid : Has s.parts id) :
    Has s'.parts id := by
  induction h with
  | create => exact has_append hid
  | resolve => exact has_resolve _ _ hid
  | _ => exact hid

/-- every id the wait is (going to be) about exists -/
def WEx (ps : List Part) : Option WPc → Prop
  | some (.seqComplete pend) => ∀ id ∈ pend, Has ps id
  | some (.waiting rem) => rem ≠ [] ∧ ∀ id ∈ rem, Has ps id
  | _ => True

def isPayingPay : OPc → Bool
  | .paying _ _ .paying => true
  | _ => false

structure LOk (s : SState) (o : Owner) : Prop where
  pay  : isPayingPay o.pc = true → s.payRunning = true ∨ (lookupS o.served (.prov .pay)).isSome = true
  wex  : WEx s.parts (ownerWpc o.pc)
  sids : ∀ x ∈ o.served, ∀ ids, x.2 = .prov (.pendingIds ids) → ∀ id ∈ ids, Has s.parts id   -- listed ids exist
  np   : o.pc = .panicked → s.panicked = true                 -- so that `c06_no_panic` rules the program counter out

def LInv (s : SState) : Prop := ∀ e o, s.active = some (e, o) → LOk s o

theorem wex_mono {ps ps' : List Part} (hm : ∀ id, Has ps id → Has ps' id) {w : Option WPc} (h : WEx ps w) : WEx ps' w := by
  cases w with
  | none => trivial
  | some w =>
    cases w with
    | seqComplete pend => exact fun id hid => hm id (h id hid)
    | waiting rem => exact ⟨h.1, fun id hid => hm id (h.2 id hid)⟩
    | _ => trivial

theorem lok_parts {s s' : SState} {o : Owner} (hm : ∀ id, Has s.parts id → Has s'.parts id)
    (hp : s'.payRunning = s.payRunning) (hk : s'.panicked = s.panicked) (h : LOk s o) : LOk s' o :=
  ⟨fun hpc => by rw [hp]; exact h.pay hpc, wex_mono hm h.wex, fun x hx ids hr id hid => hm id (h.sids x hx ids hr id hid),
   fun hpc => by rw [hk]; exact h.np hpc⟩

theorem LOk.serve {s : SState} {o : Owner} (h : LOk s o) (q : SReq) {r : SReply}
    (hr : ∀ ids, r = .prov (.pendingIds ids) → ∀ id ∈ ids, Has s.parts id) :
    LOk s { o with served := o.served ++ [(q, r)] } where
  pay hpc := (h.pay hpc).imp_right fun h1 => by
    obtain ⟨x, hx⟩ := Option.isSome_iff_exists.mp h1
    rw [lookupS_append, hx]; rfl
  wex := h.wex
  sids x hx := by
    rcases List.mem_append.mp hx with hx | hx
    · exact h.sids x hx
    · cases List.mem_singleton.mp hx; exact hr
  np := h.np

theorem lok_fresh {s : SState} {pc : OPc} (hw : ownerWpc pc = none) (hp : isPayingPay pc = false)
    (hn : pc = .panicked → s.panicked = true) :
    LOk s { pc := pc, served := [] } :=
  ⟨fun h => Bool.noConfusion (hp.symm.trans h), by rw [hw]; trivial, (fun _ hx => nomatch hx), hn⟩

theorem WMove.wex {ps : List Part} {faulty : Prop} {w w' : WPc} {q : PReq} {r : PReply} (hmv : WMove w q r w')
    (h : WEx ps (some w)) (hwi : WInv ps faulty w) (hs : ∀ ids, r = .pendingIds ids → ∀ id ∈ ids, Has ps id) :
    WEx ps (some w') := by
  induction hmv with
  | ret => trivial
  | listed ids => exact hs ids rfl
  | wait hne => exact ⟨hne, h⟩
  | next _ hne => exact ⟨hne, fun i hi => h.2 i (List.mem_of_mem_erase hi)⟩
  | concC | concP => exact hwi.elim

/-- what the owner waits on after a continuation still exists; it is not waiting on `pay` again -/
theorem ownerCont_wex {c : Cfg} {s : SState} {pc pc' : OPc} {q : SReq} {r : SReply}
    (h : WEx s.parts (ownerWpc pc)) (hpci : OPcInv s pc)
    (hq : q ∈ pc.outstanding .current) (hm : ∀ pq, q = .prov pq → ∃ pr, r = .prov pr)
    (hs : ∀ ids, r = .prov (.pendingIds ids) → ∀ id ∈ ids, Has s.parts id)
    (hst : ownerCont c .current s pc q r = .stay pc') :
    WEx s.parts (ownerWpc pc') ∧ isPayingPay pc' = false ∧ pc' ≠ .panicked := by
  have hs' : ∀ {pr}, r = .prov pr → ∀ ids, pr = .pendingIds ids → ∀ id ∈ ids, Has s.parts id :=
    fun hr ids hp => hs ids (hp ▸ hr)
  induction ownerCont_stay hst with
  | rwGo aid g t w pq pr => exact ⟨(wDeliver_move pr (prov_mem hq)).wex h hpci.1 (hs' rfl), rfl, OPc.noConfusion⟩
  | payGo aid g p pq pr hp =>
    have hmv := pDeliver_move SVariant.current.prov pr (prov_mem hq)
    generalize pDeliver SVariant.current.prov p pq pr = p' at hmv hp ⊢
    induction hmv with
    | retPay => exact absurd rfl (hp _)
    | inside hw => exact ⟨hw.wex h hpci.2.1 (hs' rfl), rfl, OPc.noConfusion⟩
    | retWait | enter => exact ⟨trivial, rfl, OPc.noConfusion⟩
  | idle _ _ hpc => rw [hpc] at hq; cases hq
  | mismatch q _ hpc hr =>
    obtain ⟨pq, rfl⟩ := hpc q hq
    obtain ⟨pr, rfl⟩ := hm pq rfl
    exact absurd rfl (hr pq pr rfl)
  | wait | resume | rwNone | rFailA | addS => exact ⟨trivial, rfl, OPc.noConfusion⟩

theorem LInv.of_active {s : SState} {e : PEntry} {o : Owner} (ha : s.active = some (e, o)) (h : LOk s o) : LInv s :=
  fun _ _ ha' => by cases ha.symm.trans ha'; exact h

theorem LInv.of_none {s : SState} (ha : s.active = none) : LInv s :=
  fun _ _ ha' => nomatch ha.symm.trans ha'

/-- `LInv` is inductive under every action; `SInv` supplies that replies have the type of their
    request and that the concurrent-listing program counter of the pinned variant is unreachable -/
theorem linv_step (c : Cfg) {s s' : SState} {outs : List Out} (a : SAct) (h : LInv s) (hi : SInv .current s)
    (hs : sstep c .current s a = some (s', outs)) : LInv s' := by
  induction Step.of_sstep hs with
  | env he =>
    exact fun e o ha => lok_parts he.has he.frame.payRunning he.frame.panicked (h e o (he.frame.active ▸ ha))
  | arrive _ _ _ _ _ hact => exact .of_active rfl (lok_parts (s := s) (fun _ x => x) rfl rfl (h _ _ hact))
  | payEnd r hact _ _ hnew hok =>
    -- a pay reply is never a listing: `payReplyOk _ (.pendingIds _) = false`
    have h1 := (h _ _ hact).serve (.prov .pay) (r := .prov r) (fun ids hr => by cases hr; cases hok)
    exact .of_active rfl ⟨fun _ => .inr (by rw [lookupS_append, hnew]; rfl), h1.wex, h1.sids, h1.np⟩
  | serveOwner q hact _ _ _ hres =>
    have h1 := (h _ _ hact).serve q (nodeServe_pendingIds hres)
    exact .of_active rfl (lok_parts (s := s) (fun _ x => x) rfl rfl h1)
  | faultOwner q _ hact _ _ hres =>
    have h1 := (h _ _ hact).serve q (fun _ hr => absurd hr (nodeFault_not_pendingIds hres))
    exact .of_active rfl (lok_parts (s := s) (fun _ x => x) rfl rfl h1)
  | stay q hact hq hl hn =>
    have h0 := h _ _ hact
    obtain ⟨hpci, hf, _⟩ := hi.parked hact hl
    have hw := ownerCont_wex h0.wex hpci hq (oFact_matches hf) (h0.sids _ (lookup_mem hl)) hn
    exact .of_active rfl ⟨fun hp => Bool.noConfusion (hw.2.1.symm.trans hp), hw.1,
      fun x hx => h0.sids x (keepServed_mem hx).2.2.1, fun hp => absurd hp hw.2.2⟩
  | pay q _ _ _ hn =>
    obtain ⟨_, _, _, rfl⟩ := ownerCont_pay hn
    exact .of_active rfl ⟨fun _ => .inl rfl, trivial, (fun _ hx => nomatch hx), OPc.noConfusion⟩
  | panic => exact .of_active rfl (lok_fresh (pc := .panicked) rfl rfl (fun _ => rfl))
  | arriveNew | takeReady | readParams | readHeight => exact .of_active rfl (lok_fresh rfl rfl OPc.noConfusion)
  | crash | finish | finishBk | timerFire | takeFail => exact .of_none rfl

theorem wait_answerable {s : SState} {faulty : Prop} {w : WPc} (hwi : WInv s.parts faulty w) (hnr : w.notRet)
    (hex : WEx s.parts (some w)) :
    (∃ pq ∈ w.outstanding, pq ≠ .pay ∧ (nodeServe s (.prov pq)).isSome) ∨
    ∃ rem, w = .waiting rem ∧ rem ≠ [] ∧ ∀ id ∈ rem, ∃ p, findPart s.parts id = some p ∧ p.st = .pending := by
  cases w with
  | seqPending => exact .inl ⟨.listPending, List.mem_singleton_self _, PReq.noConfusion, rfl⟩
  | seqComplete pend => exact .inl ⟨.listComplete, List.mem_singleton_self _, PReq.noConfusion, rfl⟩
  | conc a b => exact hwi.elim
  | ret r => exact hnr.elim
  | waiting rem =>
    by_cases hfin : ∃ id ∈ rem, ∃ p, findPart s.parts id = some p ∧ p.st ≠ .pending
    · obtain ⟨id, hid, hp⟩ := hfin
      exact .inl ⟨.waitPart id, List.mem_map_of_mem hid, PReq.noConfusion, nodeServe_waitPart.mpr hp⟩
    · refine .inr ⟨rem, rfl, hex.1, fun id hid => ?_⟩
      obtain ⟨p, hfp⟩ := has_findPart (hex.2 id hid)
      exact ⟨p, hfp, Classical.byContradiction fun hp => hfin ⟨id, hid, p, hfp, hp⟩⟩

/-- What the live lifecycle `o` is waiting for in state `s`: the scheduler (`reply`, `read`), the node,
    which can answer now (`node`), or the environment: the MPP timer or a message (`timer`), the pay
    command (`pay`), parts that are all still pending (`parts`). Each alternative stays true as long
    as the owner does not move and the awaited thing has not happened. -/
inductive Awaits (s : SState) (o : Owner) : Prop
  | reply {q : SReq} {r : SReply} (hq : q ∈ o.pc.outstanding .current) (hr : lookupS o.served q = some r)
  | read (h : o.pc = .gotReady ∨ ∃ mf exp, o.pc = .gotParams mf exp)
  | node {q : SReq} (hq : q ∈ o.pc.outstanding .current) (hnp : q ≠ .prov .pay) (hnew : lookupS o.served q = none)
      (hres : (nodeServe s q).isSome)
  | timer {d : Nat} (hpc : o.pc = .waitHtlcs d)
  | pay {aid g : Nat} (hpc : o.pc = .paying aid g .paying) (hrun : s.payRunning = true)
      (hnew : lookupS o.served (.prov .pay) = none)
  | parts {rem : List Nat} (hw : ownerWpc o.pc = some (.waiting rem)) (hne : rem ≠ [])
      (hall : ∀ id ∈ rem, ∃ p, findPart s.parts id = some p ∧ p.st = .pending)

/-- Where the invariants hold and no task has panicked (so in every reachable state) a live lifecycle waits for nothing
    else: not the datastore, not a listing, not a lock, not another payment. -/
theorem owner_waits {s : SState} {e : PEntry} {o : Owner} (hi : SInv .current s) (hli : LInv s) (hnp : s.panicked = false)
    (hact : s.active = some (e, o)) : Awaits s o := by
  have hpci := (hi.owner e o hact).1
  have hl := hli e o hact
  -- a request the node can answer: its reply waits already, or the node is awaited
  have req : ∀ q, q ∈ o.pc.outstanding .current → q ≠ .prov .pay → (nodeServe s q).isSome → Awaits s o := by
    intro q hq hnp hres
    cases hnew : lookupS o.served q with
    | some r => exact .reply hq hnew
    | none => exact .node hq hnp hnew hres
  have ds : ∀ q, o.pc.outstanding .current = [q] → (∀ pq, q ≠ .prov pq) → Awaits s o :=
    fun q hq hnp => req q (by rw [hq]; exact List.mem_singleton_self q) (hnp .pay) (nodeServe_ds_isSome s hnp)
  -- inside `wait_payment` (after a restart or behind the pay wrapper)
  have wait : ∀ w, ownerWpc o.pc = some w → Awaits s o := by
    intro w hw
    obtain ⟨hwi, hnr, _⟩ := oPcInv_wpc hpci hw
    rcases wait_answerable hwi hnr (hw ▸ hl.wex) with ⟨pq, hq, hnp, hres⟩ | ⟨rem, rfl, hne, hall⟩
    · exact req (.prov pq) (outstanding_of_ownerWpc .current hw ▸ List.mem_map_of_mem hq) (fun h => hnp (SReq.prov.inj h)) hres
    · exact .parts hw hne hall
  obtain ⟨pc, served⟩ := o
  cases pc with
  | fetch | rFailA | rFailS | addS | addA => exact ds _ rfl fun _ => SReq.noConfusion
  | gotReady => exact .read (.inl rfl)
  | gotParams mf exp => exact .read (.inr ⟨mf, exp, rfl⟩)
  | waitHtlcs d => exact .timer rfl
  | panicked => exact nomatch (hl.np rfl).symm.trans hnp
  | rWait aid g t w => exact wait w rfl
  | paying aid g p =>
    cases p with
    | paying =>
      cases hnew : lookupS served (.prov .pay) with
      | some r => exact .reply (pay_outstanding .current rfl) hnew
      | none =>
        refine .pay rfl ((hl.pay rfl).resolve_right fun h => ?_) hnew
        rw [hnew] at h; cases h
    | inWait f w => exact wait w rfl
    | retWait | retPay => exact hpci.elim

theorem linv_init : LInv SState.init := .of_none rfl

theorem linv_run (c : Cfg) (acts : List SAct) (s s' : SState) (h : LInv s) (hi : SInv .current s)
    (hf : WriteFaultsOnly acts) (hr : srun c .current s acts = some s') : LInv s' :=
  (srun_induction (P := fun s => LInv s ∧ SInv .current s) (A := SAct.writeFaultOnly)
    (fun _ a _ _ h ha hs => ⟨linv_step c a h.1 h.2 hs, sstep_inv c a h.2 ha hs⟩) ⟨h, hi⟩ hf hr).1

end Tramp
