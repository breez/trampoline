/- The TLV codec against the strict BOLT decoder of Model/Spec: encoding then decoding (`fromBytesAux_toBytes`), and what
   the strict decoder accepts is something the encoder writes (`strictDecode_spec`). -/
import Tramp.Model.Spec
import Tramp.Proofs.Bytes

namespace Tramp

theorem fromBytesAux_toBytes (m : ShortRead) (es : List Entry) (hes : EntriesOk es) :
    ∀ fuel, (toBytes es).length ≤ fuel → fromBytesAux m fuel (toBytes es) = .ok es := by
  induction es with
  | nil => intro fuel _; cases fuel <;> rfl
  | cons e es ih =>
    intro fuel hf
    -- the two reads at the head of `toBytes (e :: es)`
    have g1 : getCompactSizeWith m (toBytes (e :: es)) =
        .ok (e.typ, putCompactSize e.value.length ++ (e.value ++ toBytes es)) := by
      rw [toBytes, encodeEntry, List.append_assoc, List.append_assoc]
      exact getCompactSizeWith_put m _ (hes e List.mem_cons_self).1 _
    have g2 := getCompactSizeWith_put m _ (hes e List.mem_cons_self).2 (e.value ++ toBytes es)
    -- each of them consumes at least one byte
    have h2 : (toBytes es).length + 2 ≤ (toBytes (e :: es)).length := by
      have l1 := (getCompactSizeWith_ok g1).1
      have l2 := (getCompactSizeWith_ok g2).1
      have l3 : (e.value ++ toBytes es).length = _ := List.length_append
      omega
    cases fuel with
    | zero => omega
    | succ fuel =>
      rw [fromBytesAux, if_neg (by omega), g1]
      simp only
      rw [g2]
      simp only
      rw [if_neg (by rw [List.length_append]; exact Nat.not_lt.mpr (Nat.le_add_right ..)),
        List.drop_left' rfl, List.take_left' rfl,
        ih (fun x hx => hes x (List.mem_cons_of_mem e hx)) fuel (by omega)]

theorem strictRead_spec {w lo n : Nat} {rest r : Bytes} (h : strictRead w lo rest = some (n, r)) :
    rest = beBytes w n ++ r ∧ lo ≤ n ∧ n < 256 ^ w := by
  revert h
  fun_cases strictRead w lo rest with
  | case3 hl hlo =>
    intro h
    cases h
    have ⟨e, hlt⟩ := be_split (Nat.le_of_not_lt hl)
    exact ⟨e, Nat.le_of_not_lt hlo, hlt⟩
  | _ => nofun

theorem Wide.strictGet {c : UInt8} {w lo : Nat} (h : Wide c w lo) (rest : Bytes) :
    strictGet (c :: rest) = strictRead w lo rest := by
  cases h <;> rfl

/-- what the strict reader accepts is exactly what `put_compact_size` writes -/
theorem strictGet_spec {bs r : Bytes} {n : Nat} (h : strictGet bs = some (n, r)) :
    bs = putCompactSize n ++ r ∧ n < 2 ^ 64 := by
  cases bs with
  | nil => cases h
  | cons b rest =>
    rcases byte_cases b with hb | ⟨w, lo, hW⟩
    · rw [strictGet, if_neg (by omega), if_neg (by omega), if_neg (by omega)] at h
      cases h
      rw [putCompactSize, if_pos hb, UInt8.ofNat_toNat]
      exact ⟨rfl, Nat.lt_trans hb (by decide)⟩
    · rw [hW.strictGet] at h
      have ⟨e, hlo, hhi⟩ := strictRead_spec h
      rw [hW.put hlo hhi, e]
      exact ⟨rfl, Nat.lt_of_lt_of_le hhi hW.pow_le⟩

theorem strictDecodeAux_spec {fuel : Nat} {bs : Bytes} {es : List Entry}
    (h : strictDecodeAux fuel bs = some es) : bs = toBytes es ∧ EntriesOk es := by
  fun_induction strictDecodeAux fuel bs generalizing es with
  | case1 => cases h; exact ⟨rfl, nofun⟩
  | case7 _ _ _ t r1 h1 l r2 h2 hl es' h3 ih =>      -- both reads and the rest succeed: the one branch that returns `some`
    cases h
    have ⟨e1, b1⟩ := strictGet_spec h1
    have ⟨e2, b2⟩ := strictGet_spec h2
    have ⟨e3, b3⟩ := ih h3
    have hlen : (List.take l r2).length = l := List.length_take_of_le (Nat.le_of_not_lt hl)
    constructor
    · rw [e1, e2, toBytes, encodeEntry, hlen, ← e3, List.append_assoc, List.append_assoc,
        List.take_append_drop]
    · exact List.forall_mem_cons.mpr ⟨⟨b1, hlen.symm ▸ b2⟩, b3⟩
  | _ => cases h

theorem strictDecode_spec {bs : Bytes} {es : List Entry} (h : strictDecode bs = some es) :
    bs = toBytes es ∧ EntriesOk es :=
  strictDecodeAux_spec h

end Tramp
