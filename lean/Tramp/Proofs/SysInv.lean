/-
The system invariant of M7 (DESIGN.md §8), node/owner/bookkeeper part:
  (P) a pay command runs only while the owner sits in `paying`, its reply not yet produced;
  (K) the owner is in a "known quiet" program point ⇒ nothing is live on the node;
  (W) something live on the node ⇒ the stored state is Pending or Succeeded;
  (S) a stored/announced preimage is the preimage of a complete part;
  (G) generations: a post-failure bookkeeper's guarded Free write can land only when nothing is live;
  plus the facts carried by replies that were computed by the node and not yet consumed.
Proved inductive for every action except lost writes (`Fault.writeLost`; what they leave behind is among the images
C09 quantifies over) and read faults (K2–K4 are what happens under them).
-/
import Tramp.Proofs.StepView
import Tramp.Proofs.Provider

namespace Tramp

def dsNonFree (s : SState) : Prop := ∃ v g, s.ds = some (v, g) ∧ v ≠ .free
def dsGenIs (s : SState) (g : Nat) : Prop := ∃ v, s.ds = some (v, g)
def dsGenGe (s : SState) (g : Nat) : Prop := ∃ v g', s.ds = some (v, g') ∧ g ≤ g'

def BPc.failGen : BPc → Option Nat
  | .failA _ g => some g
  | .failS _ g => some g
  | _ => none

def BkBelow (s : SState) (g : Nat) : Prop := ∀ b ∈ s.bks, ∀ gb, b.pc.failGen = some gb → gb < g

def ownerWpc : OPc → Option WPc
  | .rWait _ _ _ w => some w
  | .paying _ _ (.inWait _ w) => some w
  | _ => none

def WPc.notRet : WPc → Prop
  | .ret _ => False
  | _ => True

/-- the owner is past its own successful Pending write carrying generation `g` -/
def PastMarker (s : SState) (g : Nat) : Prop := BkBelow s g ∧ dsGenGe s g ∧ dsNonFree s

/-- what a reply computed by the node and not yet consumed by the owner guarantees NOW -/
def OFact (s : SState) (pc : OPc) : SReq × SReply → Prop
  | (.prov q, .prov r) => ServedFact s.parts (ownerWpc pc) False (q, r)
  | (.dsList, .listed none) => s.quiet
  | (.dsList, .listed (some (.free, _))) => s.quiet
  | (.dsList, .listed (some (.pending _ _, _))) => True
  | (.dsList, .listed (some (.succeeded pre, _))) => HasComplete s.parts pre
  | (.dsList, .listErr) => False
  | (.dsWriteState (.pending _ _) _, .written g) => PastMarker s g
  | (.dsWriteState .free _, .written _) => True
  | (.dsWriteState (.succeeded _) _, .written _) => True
  | (.dsWriteState _ _, .writeErr) => True
  | (.dsWriteAttempt _ _, .written _) => True
  | (.dsWriteAttempt _ _, .writeErr) => True
  | _ => False

def OPcInv (s : SState) : OPc → Prop
  | .fetch => True
  | .rWait _ _ _ w => WInv s.parts False w ∧ w.notRet ∧ s.payRunning = false
  | .rFailA _ _ _ => s.quiet
  | .rFailS _ _ _ => s.quiet
  | .waitHtlcs _ => s.quiet
  | .gotReady => s.quiet
  | .gotParams _ _ => s.quiet
  | .addS _ _ _ _ => s.quiet
  | .addA _ g _ _ => s.quiet ∧ PastMarker s g
  | .paying _ g .paying => PastMarker s g
  | .paying _ g (.inWait f w) => PastMarker s g ∧ WInv s.parts False w ∧ w.notRet ∧ s.payRunning = false ∧ f = true
  | .paying _ _ _ => False
  | .panicked => True

def BkInv (s : SState) (b : Bk) : Prop :=
  match b.pc with
  | .succS _ pre => HasComplete s.parts pre
  | .succA _ => True
  | .failA _ g => dsGenGe s g ∧ (dsGenIs s g → s.quiet)
  | .failS _ g => dsGenGe s g ∧ (dsGenIs s g → s.quiet)

/-- what `SInv` says of the owner (field `owner`) -/
def OwnerInv (v : SVariant) (s : SState) (o : Owner) : Prop :=
  OPcInv s o.pc ∧ ∀ x ∈ o.served, x.1 ∈ o.pc.outstanding v ∧ OFact s o.pc x

structure SInv (v : SVariant) (s : SState) : Prop where
  nodup   : PartsNodup s.parts
  payOwn  : s.payRunning = true → ∃ e o aid g, s.active = some (e, o) ∧ o.pc = .paying aid g .paying ∧ o.served = []   -- (P)
  wal     : ¬ s.quiet → dsNonFree s                                                                                -- (W)
  succ    : ∀ pre g, s.ds = some (.succeeded pre, g) → HasComplete s.parts pre                                     -- (S)
  owner   : ∀ e o, s.active = some (e, o) →                                                                        -- (K), (G), replies
              OPcInv s o.pc ∧ ∀ x ∈ o.served, x.1 ∈ o.pc.outstanding v ∧ OFact s o.pc x
  bks     : ∀ b ∈ s.bks, BkInv s b                                                                                 -- (S), (G)
  bkIds   : (s.bks.map (·.id)).Nodup ∧ ∀ b ∈ s.bks, b.id < s.nextBk

theorem sinv_init (v : SVariant) : SInv v SState.init where
  nodup := List.nodup_nil
  payOwn := fun h => nomatch h
  wal := fun h => absurd ⟨fun _ hp => (nomatch hp), rfl⟩ h
  succ := fun _ _ h => nomatch h
  owner := fun _ _ h => nomatch h
  bks := fun _ h => nomatch h
  bkIds := ⟨List.nodup_nil, fun _ h => nomatch h⟩

theorem quiet_not_running {s : SState} (h : s.quiet) : s.payRunning = false := h.2

theorem SInv.running {v : SVariant} {s : SState} (h : SInv v s) {e : PEntry} {o : Owner}
    (hact : s.active = some (e, o)) (hrun : s.payRunning = true) :
    ∃ aid g, o.pc = .paying aid g .paying ∧ o.served = [] := by
  obtain ⟨_, _, aid, g, ha, hpc, hs⟩ := h.payOwn hrun
  cases hact.symm.trans ha
  exact ⟨aid, g, hpc, hs⟩

theorem SInv.ownerAt {v : SVariant} {s : SState} (h : SInv v s) {e : PEntry} {o : Owner} {pc : OPc}
    (hact : s.active = some (e, o)) (hpc : o.pc = pc) : OPcInv s pc :=
  hpc ▸ (h.owner e o hact).1

/-- a reply that waits for the owner: its fact holds, and no pay command runs (nothing is parked while one does) -/
theorem SInv.parked {v : SVariant} {s : SState} (h : SInv v s) {e : PEntry} {o : Owner} {q : SReq} {r : SReply}
    (hact : s.active = some (e, o)) (hr : lookupS o.served q = some r) :
    OPcInv s o.pc ∧ OFact s o.pc (q, r) ∧ s.payRunning = false :=
  have hmem := lookup_mem hr
  ⟨(h.owner e o hact).1, ((h.owner e o hact).2 _ hmem).2,
    Bool.eq_false_iff.mpr fun hrun => let ⟨_, _, _, hs⟩ := h.running hact hrun; List.ne_nil_of_mem hmem hs⟩

theorem ds_quiet_of_free {v : SVariant} {s : SState} (h : SInv v s)
    (hd : s.ds = none ∨ ∃ g, s.ds = some (.free, g)) : s.quiet :=
  Decidable.byContradiction fun hnq => by
    obtain ⟨v0, g0, hds, hne⟩ := h.wal hnq
    rcases hd with hd | ⟨g, hd⟩ <;> cases hd.symm.trans hds
    exact hne rfl

/-- what the owner is told about the cell is true: (W) when it is absent or Free, (S) when it holds a preimage -/
theorem oFact_listed {v : SVariant} {s : SState} (h : SInv v s) (pc : OPc) : OFact s pc (.dsList, .listed s.ds) := by
  rcases hds : s.ds with _ | ⟨v0, g0⟩
  · exact ds_quiet_of_free h (.inl hds)
  · cases v0 with
    | free => exact ds_quiet_of_free h (.inr ⟨g0, hds⟩)
    | pending => trivial
    | succeeded pre => exact h.succ pre g0 hds

/-! ### each predicate is monotone in the facts about the node it is made of

`OPcInv`, `OFact` and `BkInv` pick, by program counter or reply, some of: `s.quiet`, `HasComplete s.parts pre`,
`PastMarker s g`, `WInv s.parts False w` with `s.payRunning = false`, `ServedFact s.parts _ False _`, and the guard
`dsGenGe s g ∧ (dsGenIs s g → s.quiet)`. A change of the node that keeps these keeps the three predicates. -/

theorem oPcInv_mono {s s' : SState} {pc : OPc} (hq : s.quiet → s'.quiet)
    (hm : ∀ g, PastMarker s g → PastMarker s' g) (hw : ∀ w, WInv s.parts False w → WInv s'.parts False w)
    (hr : s'.payRunning = s.payRunning) (h : OPcInv s pc) : OPcInv s' pc := by
  cases pc with
  | fetch | panicked => trivial
  | rFailA | rFailS | waitHtlcs | gotReady | gotParams | addS => exact hq h
  | addA aid g mf md => exact ⟨hq h.1, hm g h.2⟩
  | rWait aid g t w => exact ⟨hw w h.1, h.2.1, hr ▸ h.2.2⟩
  | paying aid g p =>
    cases p with
    | paying => exact hm g h
    | inWait f w =>
      obtain ⟨hpm, hwi, hnr, hrun, hf⟩ := h
      exact ⟨hm g hpm, hw w hwi, hnr, hr ▸ hrun, hf⟩
    | retWait | retPay => exact h

theorem oPcInv_wpc {s : SState} {pc : OPc} {w : WPc} (h : OPcInv s pc) (hw : ownerWpc pc = some w) :
    WInv s.parts False w ∧ w.notRet ∧ s.payRunning = false := by
  cases pc with
  | rWait => cases hw; exact h
  | paying _ _ p =>
    cases p with
    | inWait =>
      cases hw
      obtain ⟨-, hwi, hnr, hrun, -⟩ := h
      exact ⟨hwi, hnr, hrun⟩
    | _ => cases hw
  | _ => cases hw

theorem outstanding_of_ownerWpc {pc : OPc} {w : WPc} (v : SVariant) (h : ownerWpc pc = some w) :
    pc.outstanding v = w.outstanding.map .prov := by
  unfold ownerWpc at h
  split at h <;> cases h <;> rfl

theorem pay_outstanding {pc : OPc} {aid g : Nat} (v : SVariant) (h : pc = .paying aid g .paying) :
    SReq.prov .pay ∈ pc.outstanding v :=
  h ▸ List.mem_singleton_self _

theorem waitPart_outstanding {pc : OPc} {rem : List Nat} {id : Nat} (v : SVariant)
    (hw : ownerWpc pc = some (.waiting rem)) (hid : id ∈ rem) : SReq.prov (.waitPart id) ∈ pc.outstanding v :=
  outstanding_of_ownerWpc v hw ▸ List.mem_map_of_mem (List.mem_map_of_mem hid)

theorem oPcInv_paying {s : SState} {aid g : Nat} {p : PPc} (h : OPcInv s (.paying aid g p)) : PastMarker s g := by
  cases p with
  | paying => exact h
  | inWait => exact h.1
  | retWait | retPay => exact h.elim

theorem oFact_mono {s s' : SState} {pc : OPc} {x : SReq × SReply} (hq : s.quiet → s'.quiet)
    (hc : ∀ pre, HasComplete s.parts pre → HasComplete s'.parts pre) (hm : ∀ g, PastMarker s g → PastMarker s' g)
    (hf : ∀ y, ServedFact s.parts (ownerWpc pc) False y → ServedFact s'.parts (ownerWpc pc) False y)
    (h : OFact s pc x) : OFact s' pc x := by
  obtain ⟨q, r⟩ := x
  cases q with
  | dsList =>
    cases r with
    | listed cell =>
      match cell with
      | none | some (.free, _) => exact hq h
      | some (.pending .., _) => trivial
      | some (.succeeded pre, _) => exact hc pre h
    | _ => exact h.elim
  | dsWriteState v m =>
    cases r with
    | written g =>
      cases v with
      | pending => exact hm g h
      | _ => trivial
    | writeErr => cases v <;> trivial
    | _ => cases v <;> exact h.elim
  | dsWriteAttempt =>
    cases r with
    | written | writeErr => trivial
    | _ => exact h.elim
  | prov =>
    cases r with
    | prov => exact hf _ h
    | _ => exact h.elim

theorem oFact_writeErr {s : SState} {pc : OPc} {q : SReq} (hw : q.isWrite = true) : OFact s pc (q, .writeErr) := by
  cases q with
  | dsWriteState v m => cases v <;> trivial
  | dsWriteAttempt aid m => trivial
  | _ => cases hw

theorem oFact_matches {s : SState} {pc : OPc} {q : SReq} {r : SReply} (h : OFact s pc (q, r)) :
    ∀ pq, q = .prov pq → ∃ pr, r = .prov pr := by
  intro pq hq; subst hq
  cases r with
  | prov pr => exact ⟨pr, rfl⟩
  | _ => exact h.elim

theorem bkInv_mono {s s' : SState} {b : Bk} (hc : ∀ pre, HasComplete s.parts pre → HasComplete s'.parts pre)
    (hg : ∀ g, b.pc.failGen = some g → dsGenGe s g ∧ (dsGenIs s g → s.quiet) →
      dsGenGe s' g ∧ (dsGenIs s' g → s'.quiet))
    (h : BkInv s b) : BkInv s' b := by
  obtain ⟨id, pc, sv⟩ := b
  cases pc with
  | succS => exact hc _ h
  | succA => trivial
  | failA | failS => exact hg _ rfl h

theorem bkInv_failGen {s : SState} {b : Bk} {g : Nat} (h : BkInv s b) (hg : b.pc.failGen = some g) :
    dsGenGe s g ∧ (dsGenIs s g → s.quiet) := by
  obtain ⟨id, pc, sv⟩ := b
  cases pc <;> cases hg <;> exact h

theorem owner_mono {v : SVariant} {s s' : SState} {o : Owner} (hq : s.quiet → s'.quiet)
    (hc : ∀ pre, HasComplete s.parts pre → HasComplete s'.parts pre) (hm : ∀ g, PastMarker s g → PastMarker s' g)
    (hw : ∀ w, WInv s.parts False w → WInv s'.parts False w)
    (hf : ∀ y, ServedFact s.parts (ownerWpc o.pc) False y → ServedFact s'.parts (ownerWpc o.pc) False y)
    (hr : s'.payRunning = s.payRunning) (h : OwnerInv v s o) : OwnerInv v s' o :=
  ⟨oPcInv_mono hq hm hw hr h.1, fun x hx => ⟨(h.2 x hx).1, oFact_mono hq hc hm hf (h.2 x hx).2⟩⟩

/-- of what the owner knows, only the marker reads the cell and the bookkeepers -/
theorem owner_mono_marker {v : SVariant} {s : SState} {o : Owner} {ds : Option (DsVal × Nat)} {bks : List Bk}
    (hm : ∀ g, PastMarker s g → PastMarker { s with ds := ds, bks := bks } g) (h : OwnerInv v s o) :
    OwnerInv v { s with ds := ds, bks := bks } o :=
  owner_mono (s := s) (fun hq => hq) (fun _ hc => hc) hm (fun _ hw => hw) (fun _ hf => hf) rfl h

theorem ownerInv_nil {v : SVariant} {s : SState} {pc : OPc} (h : OPcInv s pc) : OwnerInv v s { pc := pc, served := [] } :=
  ⟨h, fun _ hx => nomatch hx⟩

/-- every stored generation is below `g'` (what a successful write returns) -/
def dsNewer (s : SState) (g' : Nat) : Prop := ∀ v g, s.ds = some (v, g) → g < g'

theorem lt_of_dsNewer {s : SState} {g g' : Nat} (hnew : dsNewer s g') (h : dsGenGe s g) : g < g' :=
  let ⟨v0, g0, hds, hle⟩ := h
  Nat.lt_of_le_of_lt hle (hnew v0 g0 hds)

theorem pastMarker_gen_up {s : SState} {g : Nat} {v' : DsVal} {g' : Nat} (hv : v' ≠ .free) (hnew : dsNewer s g')
    (h : PastMarker s g) : PastMarker { s with ds := some (v', g') } g :=
  ⟨h.1, ⟨v', g', rfl, Nat.le_of_lt (lt_of_dsNewer hnew h.2.1)⟩, ⟨v', g', rfl, hv⟩⟩

/-- a write that returns generation `g'` puts its writer past the marker: every bookkeeper's generation is at most a
    stored one, and those are below the new one -/
theorem pastMarker_written {v : SVariant} {s : SState} (h : SInv v s) {v' : DsVal} {g' : Nat} (hv : v' ≠ .free)
    (hnew : dsNewer s g') : PastMarker { s with ds := some (v', g') } g' :=
  ⟨fun b hb _ hgb => lt_of_dsNewer hnew (bkInv_failGen (h.bks b hb) hgb).1, ⟨v', g', rfl, Nat.le_refl g'⟩,
    ⟨v', g', rfl, hv⟩⟩

/-- a marker lies above the generation of every failed lifecycle's bookkeeper and at most at the stored one, so none of
    those generations is the stored one -/
theorem PastMarker.not_genIs {s : SState} {g gb : Nat} {b : Bk} (hp : PastMarker s g) (hb : b ∈ s.bks)
    (hgb : b.pc.failGen = some gb) : ¬ dsGenIs s gb := by
  intro ⟨v1, hd1⟩
  obtain ⟨v2, g2, hd2, hle⟩ := hp.2.1
  cases hd1.symm.trans hd2
  exact absurd (hp.1 b hb gb hgb) (Nat.not_lt.mpr hle)

theorem bkBelow_mono {s : SState} {bks' : List Bk} {g : Nat}
    (hsub : ∀ x ∈ bks', ∀ gb, x.pc.failGen = some gb → ∃ y ∈ s.bks, y.pc.failGen = some gb)
    (h : BkBelow s g) : BkBelow { s with bks := bks' } g := by
  intro x hx gb hgb
  obtain ⟨y, hy, hyg⟩ := hsub x hx gb hgb
  exact h y hy gb hyg

end Tramp
