/- C04 end to end: the delay granted to pay is a value of `maxDelay` computed from (i) an expiry that
   is a lower bound of the expiries of the HTLCs held when the payment was initiated — the first `k`
   listeners of the entry, listeners only ever being appended — and (ii) a height the register had at
   that time, which is at most the height it has now. Inductive under every action. -/
import Tramp.Proofs.SysPcInv
import Tramp.Proofs.SysEntry

namespace Tramp

/-- the first `k` listeners (those held at initiation) all expire at `exp` or later -/
def HeldAtInit (e : PEntry) (k exp : Nat) : Prop :=
  k ≤ e.listeners.length ∧ ∀ i ∈ e.listeners.take k, exp ≤ i.expiry

def ExpOk (c : Cfg) (s : SState) (e : PEntry) : OPc → Prop
  | .gotParams _ exp => ∃ k, HeldAtInit e k exp
  | .addS _ _ _ md => ∃ exp h k, md = maxDelay c exp h ∧ h ≤ s.height ∧ HeldAtInit e k exp
  | .addA _ _ _ md => ∃ exp h k, md = maxDelay c exp h ∧ h ≤ s.height ∧ HeldAtInit e k exp
  | _ => True

def ExpInv (c : Cfg) (s : SState) : Prop := ∀ e o, s.active = some (e, o) → ExpOk c s e o.pc

/-- listeners are only ever appended and the height register never goes down: what was recorded at
    initiation stays true of the entry -/
theorem expOk_transfer {c : Cfg} {s s' : SState} {e e' : PEntry} {pc : OPc} (hh : s.height ≤ s'.height)
    (hl : ∃ l, e'.listeners = e.listeners ++ l) (h : ExpOk c s e pc) : ExpOk c s' e' pc := by
  obtain ⟨l, hl⟩ := hl
  have tr : ∀ {k exp}, HeldAtInit e k exp → HeldAtInit e' k exp := by
    intro k exp ⟨hk, hall⟩
    refine ⟨by rw [hl, List.length_append]; exact Nat.le_trans hk (Nat.le_add_right ..), ?_⟩
    rw [hl, List.take_append_of_le_length hk]
    exact hall
  cases pc with
  | gotParams mf exp => obtain ⟨k, hk⟩ := h; exact ⟨k, tr hk⟩
  | addS | addA => obtain ⟨exp, h0, k, hmd, hle, hk⟩ := h; exact ⟨exp, h0, k, hmd, Nat.le_trans hle hh, tr hk⟩
  | _ => trivial

theorem expOk_of_noParams {c : Cfg} {s : SState} {e : PEntry} {pc : OPc} (h : pc.noParams) : ExpOk c s e pc := by
  cases pc with
  | gotParams | addS | addA => exact h.elim
  | _ => trivial

/-- `ExpInv` is inductive (the entry invariant supplies `cltv ≤ every held expiry` at initiation) -/
theorem exp_step (c : Cfg) {s s' : SState} {outs : List Out} (a : SAct) (h : ExpInv c s) (he : EInvS c s)
    (hs : sstep c .current s a = some (s', outs)) : ExpInv c s' := by
  intro e' o' ha'
  have hh := (Step.of_sstep hs).forward.2.2
  have same : ∀ {e o}, s.active = some (e, o) → ExpOk c s' e o.pc :=
    fun hact => expOk_transfer hh ⟨[], (List.append_nil _).symm⟩ (h _ _ hact)
  induction Step.of_sstep hs with
  | env he' => exact same (he'.frame.active ▸ ha')
  | arrive info amount expiry relExp total hact =>
    cases ha'
    exact expOk_transfer hh ⟨_, by rw [PEntry.add_listeners, PEntry.checks_listeners]⟩ (h _ _ hact)
  | payEnd _ hact | serveOwner _ hact | faultOwner _ _ hact => cases ha'; exact (same hact :)
  | stay q hact _ _ hn =>
    cases ha'
    exact (ownerCont_params expOk_of_noParams (fun _ h => h) c .current s _ q _ _ (h _ _ hact)).1 hn
  | pay q hact _ _ hn =>
    cases ha'
    exact (ownerCont_params expOk_of_noParams (fun _ h => h) c .current s _ q _ _ (h _ _ hact)).2 _ _ hn
  | readParams hact =>
    cases ha'
    exact ⟨_, Nat.le_refl _, by rw [List.take_length]; exact (he _ _ hact).cltvLe⟩
  | readHeight hact hpc =>
    cases ha'
    have h0 := h _ _ hact
    rw [hpc] at h0
    obtain ⟨k, hk⟩ := h0
    exact ⟨_, s.height, k, rfl, Nat.le_refl _, hk⟩
  | arriveNew | panic | takeReady => cases ha'; trivial
  | crash | finish | finishBk | timerFire | takeFail => cases ha'

theorem exp_reachable (c : Cfg) (acts : List SAct) (s : SState) (hr : srun c .current SState.init acts = some s) :
    ExpInv c s :=
  (srun_invariant (P := fun s => ExpInv c s ∧ EInvS c s ∧ RecvBounded s)
    (fun _ a _ _ h hs => ⟨exp_step c a h.1 h.2.1 hs, estep_inv c a h.2.1 h.2.2 hs⟩)
    hr ⟨fun _ _ ha => (nomatch ha), fun _ _ ha => (nomatch ha), fun _ _ ha => (nomatch ha)⟩).1

end Tramp
