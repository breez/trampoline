/- M8. The framing: recursion along `decodeOne`, `decodeAll` over a concatenation (`decodeAll_append`), and what an
   encoded message decodes to. The dispatcher: over a run, in flight ++ replies is a permutation of what was there
   and what was received, tokens distinct (`drun_perm`). -/
import Tramp.Model.Wire

namespace Tramp

theorem findSep_bound {buf : Bytes} {i : Nat} (h : findSep buf = some i) : i + 2 ≤ buf.length := by
  fun_induction findSep buf generalizing i with
  | case1 a b rest hc => cases h; exact Nat.le_add_left _ _
  | case2 a b rest hc ih =>
    obtain ⟨j, hj, rfl⟩ := Option.map_eq_some_iff.mp h
    exact Nat.succ_le_succ (ih hj)
  | case3 buf hne => cases h

theorem findSep_append {a : Bytes} {i : Nat} (b : Bytes) (h : findSep a = some i) : findSep (a ++ b) = some i := by
  fun_induction findSep a generalizing i with
  | case1 x y rest hc => cases h; simp only [List.cons_append, findSep, hc, and_self, if_true]
  | case2 x y rest hc ih =>
    obtain ⟨j, hj, rfl⟩ := Option.map_eq_some_iff.mp h
    simp only [List.cons_append, findSep, hc, if_false]
    rw [← List.cons_append, ih hj]; rfl
  | case3 buf hne => cases h

theorem decodeOne_eq_some {buf m r : Bytes} :
    decodeOne buf = some (m, r) ↔ ∃ i, findSep buf = some i ∧ buf.take i = m ∧ buf.drop (i + 2) = r := by
  unfold decodeOne
  cases findSep buf with
  | none => simp
  | some j => simp only [Option.some.injEq, Prod.mk.injEq, exists_eq_left']

theorem decodeOne_append {a m r : Bytes} (b : Bytes) (h : decodeOne a = some (m, r)) :
    decodeOne (a ++ b) = some (m, r ++ b) := by
  obtain ⟨i, hi, rfl, rfl⟩ := decodeOne_eq_some.mp h
  have hb := findSep_bound hi
  exact decodeOne_eq_some.mpr ⟨i, findSep_append b hi,
    List.take_append_of_le_length (by omega), List.drop_append_of_le_length (by omega)⟩

theorem decodeOne_shrinks {buf m r : Bytes} (h : decodeOne buf = some (m, r)) : r.length + 2 ≤ buf.length := by
  obtain ⟨i, hi, _, rfl⟩ := decodeOne_eq_some.mp h
  have hb := findSep_bound hi
  rw [List.length_drop]; omega

/-- Recursion along `decodeOne`: a buffer holds no complete message, or one message and a shorter
    rest. Every fact about `decodeAll` below follows this scheme. -/
theorem decodeOne_induction {P : Bytes → Prop} (last : ∀ buf, decodeOne buf = none → P buf)
    (more : ∀ buf m r, decodeOne buf = some (m, r) → P r → P buf) (buf : Bytes) : P buf := by
  generalize hn : buf.length = n
  induction n using Nat.strongRecOn generalizing buf with
  | _ n ih =>
    cases hd : decodeOne buf with
    | none => exact last buf hd
    | some p =>
      have := decodeOne_shrinks (m := p.1) (r := p.2) hd
      exact more buf p.1 p.2 hd (ih p.2.length (by omega) p.2 rfl)

theorem decodeAllAux_of_none {buf : Bytes} (fuel : Nat) (h : decodeOne buf = none) :
    decodeAllAux fuel buf = ([], buf) := by
  cases fuel with
  | zero => rfl
  | succ f => simp only [decodeAllAux, h]

/-- one unfolding of `decodeAllAux`, given that the fuel does not matter for the rest -/
theorem decodeAllAux_of_some {buf m r : Bytes} {fuel : Nat} (h : decodeOne buf = some (m, r))
    (hf : buf.length ≤ fuel) (hr : ∀ f, r.length ≤ f → decodeAllAux f r = decodeAll r) :
    decodeAllAux fuel buf = (m :: (decodeAll r).1, (decodeAll r).2) := by
  have hs := decodeOne_shrinks h
  cases fuel with
  | zero => omega
  | succ f => simp only [decodeAllAux, h]; rw [hr f (by omega)]

theorem decodeAllAux_fuel (buf : Bytes) : ∀ fuel, buf.length ≤ fuel → decodeAllAux fuel buf = decodeAll buf := by
  induction buf using decodeOne_induction with
  | last buf hd => intro fuel _; rw [decodeAll, decodeAllAux_of_none _ hd, decodeAllAux_of_none _ hd]
  | more buf m r hd ih =>
    intro fuel hf
    exact (decodeAllAux_of_some hd hf ih).trans (decodeAllAux_of_some hd (Nat.le_refl _) ih).symm

theorem decodeAll_of_none {buf : Bytes} (h : decodeOne buf = none) : decodeAll buf = ([], buf) :=
  decodeAllAux_of_none _ h

theorem decodeAll_of_some {buf m r : Bytes} (h : decodeOne buf = some (m, r)) :
    decodeAll buf = (m :: (decodeAll r).1, (decodeAll r).2) :=
  decodeAllAux_of_some h (Nat.le_refl _) (decodeAllAux_fuel r)

theorem decodeAll_append (a b : Bytes) :
    decodeAll (a ++ b) =
      ((decodeAll a).1 ++ (decodeAll ((decodeAll a).2 ++ b)).1, (decodeAll ((decodeAll a).2 ++ b)).2) := by
  induction a using decodeOne_induction with
  | last a hd => rw [decodeAll_of_none hd]; rfl
  | more a m r hd ih => rw [decodeAll_of_some hd, decodeAll_of_some (decodeOne_append b hd), ih]; rfl

theorem decodeAll_residual (buf : Bytes) : decodeOne (decodeAll buf).2 = none := by
  induction buf using decodeOne_induction with
  | last buf hd => rw [decodeAll_of_none hd]; exact hd
  | more buf m r hd ih => rw [decodeAll_of_some hd]; exact ih

def NoNL (m : Bytes) : Prop := ∀ x ∈ m, x ≠ NL

theorem findSep_cons_of_ne {x : UInt8} (buf : Bytes) (hx : x ≠ NL) :
    findSep (x :: buf) = (findSep buf).map (· + 1) := by
  cases buf with
  | nil => rfl
  | cons y r => simp only [findSep, hx, false_and, if_false]

theorem findSep_encoded {m : Bytes} (h : NoNL m) : findSep (encodeMsg m) = some m.length := by
  induction m with
  | nil => rfl
  | cons x m ih =>
    rw [encodeMsg, List.cons_append, findSep_cons_of_ne _ (h x (List.mem_cons_self ..)), ← encodeMsg,
      ih fun y hy => h y (List.mem_cons_of_mem _ hy)]
    rfl

theorem decodeOne_encoded {m : Bytes} (rest : Bytes) (h : NoNL m) :
    decodeOne (encodeMsg m ++ rest) = some (m, rest) := by
  refine decodeOne_append rest (r := []) (decodeOne_eq_some.mpr ⟨m.length, findSep_encoded h, ?_, ?_⟩)
  · rw [encodeMsg, List.take_left]
  · rw [encodeMsg, List.drop_eq_nil_of_le (by simp)]

def recvdOf : List DAct → List WReq
  | [] => []
  | .recv r :: as => r :: recvdOf as
  | .complete _ :: as => recvdOf as

theorem recvdOf_cons (a : DAct) (as : List DAct) : recvdOf (a :: as) = recvdOf [a] ++ recvdOf as := by
  cases a <;> rfl

/-- With distinct tokens, `complete t` removes from the calls in flight exactly the one it found. -/
theorem filter_tok_perm {l : List WReq} {t : Nat} {r : WReq} (hnd : (l.map (·.tok)).Nodup)
    (hf : l.find? (·.tok == t) = some r) : l.Perm (r :: l.filter (·.tok != t)) := by
  obtain ⟨hr, as, bs, rfl, has⟩ := List.find?_eq_some_iff_append.mp hf
  rw [List.map_append, List.map_cons, List.nodup_append, List.nodup_cons] at hnd
  obtain ⟨-, ⟨hrbs, -⟩, -⟩ := hnd
  -- no request before `r` has token `t` (`r` is the first found), and none after it (the tokens are distinct)
  have has : ∀ y ∈ as, (y.tok != t) = true := has
  have hbs : ∀ y ∈ bs, (y.tok != t) = true := fun y hy => bne_iff_ne.mpr fun hyt =>
    hrbs (List.mem_map.mpr ⟨y, hy, hyt.trans (beq_iff_eq.mp hr).symm⟩)
  rw [List.filter_append, List.filter_cons_of_neg (by simpa using hr), List.filter_eq_self.mpr has,
    List.filter_eq_self.mpr hbs]
  exact List.perm_middle

/-- One step of the dispatcher: the calls in flight together with the replies written change by
    exactly the request received (if any), and their tokens stay distinct. -/
theorem dstep_perm {s s' : DSt} {a : DAct} (hnd : ((s.inflight ++ s.replies).map (·.tok)).Nodup)
    (h : dstep s a = some s') :
    (s'.inflight ++ s'.replies).Perm (recvdOf [a] ++ (s.inflight ++ s.replies)) ∧
    ((s'.inflight ++ s'.replies).map (·.tok)).Nodup := by
  cases a with
  | recv r =>
    simp only [dstep] at h
    split at h
    · cases h
    · rename_i hc
      cases h
      have hp : (s.inflight ++ [r] ++ s.replies).Perm (r :: (s.inflight ++ s.replies)) := by
        rw [List.append_assoc]; exact List.perm_middle
      -- the guard of `recv` is what keeps the new token distinct from all the others
      refine ⟨hp, (hp.map _).nodup_iff.mpr (List.nodup_cons.mpr ⟨fun hm => hc ?_, hnd⟩)⟩
      obtain ⟨q, hq, hqt⟩ := List.mem_map.mp hm
      rw [← List.any_append, List.any_eq_true]
      exact ⟨q, hq, beq_iff_eq.mpr hqt⟩
  | complete t =>
    simp only [dstep] at h
    split at h
    · rename_i r hr
      cases h
      have hnd1 := (List.nodup_append.mp (List.map_append ▸ hnd)).1
      have hp : (s.inflight.filter (·.tok != t) ++ (s.replies ++ [r])).Perm (s.inflight ++ s.replies) := by
        rw [← List.append_assoc]
        exact (List.perm_append_singleton ..).trans ((filter_tok_perm hnd1 hr).symm.append_right _)
      exact ⟨hp, (hp.map _).nodup_iff.mpr hnd⟩
    · cases h

/-- Over a run, from any state with distinct tokens: the calls in flight together with the replies
    written are those of the start plus the requests received, and the tokens stay distinct. -/
theorem drun_perm {acts : List DAct} {s s' : DSt} (hnd : ((s.inflight ++ s.replies).map (·.tok)).Nodup)
    (h : drun s acts = some s') :
    (s'.inflight ++ s'.replies).Perm (s.inflight ++ s.replies ++ recvdOf acts) ∧
    ((s'.inflight ++ s'.replies).map (·.tok)).Nodup := by
  induction acts generalizing s with
  | nil => cases h; exact ⟨by rw [recvdOf, List.append_nil], hnd⟩
  | cons a as ih =>
    simp only [drun] at h
    cases hs : dstep s a with
    | none => rw [hs] at h; cases h
    | some s1 =>
      rw [hs] at h
      obtain ⟨p1, nd1⟩ := dstep_perm hnd hs
      obtain ⟨p2, nd2⟩ := ih nd1 h
      refine ⟨p2.trans ?_, nd2⟩
      rw [recvdOf_cons, ← List.append_assoc]
      exact (p1.trans List.perm_append_comm).append_right _

end Tramp
