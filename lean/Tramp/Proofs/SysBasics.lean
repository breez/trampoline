/-
The auxiliary functions of M7 (`lookupS`, `keepServed`, `findBk`/`setBk`/`dropBk`, `dsWrite`, `nodeServe`, `nodeFault`,
`respAll`): what the model's definitions do, stated once.
-/
import Tramp.Model.System
import Tramp.Proofs.Provider

namespace Tramp

theorem lookupS_append (l : List (SReq × SReply)) (q' : SReq) (r : SReply) (q : SReq) :
    lookupS (l ++ [(q', r)]) q = (lookupS l q).or (if q' = q then some r else none) := by
  unfold lookupS
  rw [List.find?_append]
  cases l.find? (fun x => x.1 == q) <;> by_cases h : q' = q <;> simp [h]

theorem lookupS_single {q : SReq} {r : SReply} : lookupS [(q, r)] q = some r := by simp [lookupS]

theorem lookupS_snoc (l : List (SReq × SReply)) (q : SReq) (r : SReply) : ∃ r', lookupS (l ++ [(q, r)]) q = some r' := by
  rw [lookupS_append, if_pos rfl]
  cases lookupS l q <;> exact ⟨_, rfl⟩

theorem keepServed_mem {v : SVariant} {pc pc' : OPc} {served : List (SReq × SReply)} {q : SReq} {x : SReq × SReply}
    (h : x ∈ keepServed v pc pc' served q) :
    sameWait pc pc' = true ∧ (pc'.outstanding v).isEmpty = false ∧ x ∈ served ∧ x.1 ≠ q := by
  unfold keepServed at h
  split at h
  · rename_i hc
    simp only [Bool.and_eq_true, Bool.not_eq_true'] at hc
    simp only [List.mem_filter, bne_iff_ne, ne_eq] at h
    exact ⟨hc.1, hc.2, h.1, h.2⟩
  · simp at h

theorem prov_mem {l : List PReq} {pq : PReq} (h : SReq.prov pq ∈ l.map .prov) : pq ∈ l := by
  obtain ⟨_, h', heq⟩ := List.mem_map.mp h
  cases heq
  exact h'

theorem eq_prov_of_mem_map {l : List PReq} {q : SReq} (h : q ∈ l.map .prov) : ∃ pq, q = .prov pq :=
  let ⟨pq, _, he⟩ := List.mem_map.mp h
  ⟨pq, he.symm⟩

theorem failMode_current : failMode SVariant.current = .createOrReplace := rfl

theorem owner_write_state_cases {pc : OPc} {v' : DsVal} {m : DsMode}
    (h : SReq.dsWriteState v' m ∈ pc.outstanding SVariant.current) :
    (∃ aid g t, pc = .rFailS aid g t ∧ v' = .free ∧ m = .mustReplace (some g)) ∨
    (∃ aid t mf md, pc = .addS aid t mf md ∧ v' = .pending aid t ∧ m = .createOrReplace) := by
  cases pc with
  | rFailS aid g t => cases List.mem_singleton.mp h; exact .inl ⟨aid, g, t, rfl, rfl, rfl⟩
  | addS aid t mf md => cases List.mem_singleton.mp h; exact .inr ⟨aid, t, mf, md, rfl, rfl, rfl⟩
  | rWait | paying => obtain ⟨_, _, he⟩ := List.mem_map.mp h; cases he
  | fetch | rFailA | addA => cases List.mem_singleton.mp h
  | _ => cases h

theorem findBk_mem {bks : List Bk} {id : Nat} {b : Bk} (h : findBk bks id = some b) : b ∈ bks ∧ b.id = id :=
  find?_key (f := Bk.id) h

theorem setBk_map_id (bks : List Bk) (b' : Bk) : (setBk bks b').map (·.id) = bks.map (·.id) := by
  unfold setBk
  simp only [List.map_map]
  apply List.map_congr_left
  intro x _
  simp only [Function.comp]
  split
  · rename_i h; simp at h; exact h.symm
  · rfl

theorem mem_setBk {bks : List Bk} {b' x : Bk} (h : x ∈ setBk bks b') : x = b' ∨ (x ∈ bks ∧ x.id ≠ b'.id) := by
  unfold setBk at h
  simp only [List.mem_map] at h
  obtain ⟨y, hy, hx⟩ := h
  split at hx
  · left; exact hx.symm
  · rename_i hne; right; subst hx; exact ⟨hy, by simpa using hne⟩

theorem setBk_absent {bks : List Bk} {b' : Bk} (h : ∀ x ∈ bks, x.id ≠ b'.id) : setBk bks b' = bks :=
  (List.map_congr_left fun x hx => if_neg (by simpa using h x hx)).trans (List.map_id' bks)

theorem mem_dropBk {bks : List Bk} {id : Nat} {x : Bk} (h : x ∈ dropBk bks id) : x ∈ bks ∧ x.id ≠ id := by
  unfold dropBk at h
  simp only [List.mem_filter, bne_iff_ne, ne_eq] at h
  exact h

theorem dropBk_absent {bks : List Bk} {id : Nat} (h : ∀ x ∈ bks, x.id ≠ id) : dropBk bks id = bks :=
  List.filter_eq_self.mpr fun x hx => bne_iff_ne.mpr (h x hx)

/-- with distinct ids the bookkeeper `b` sits at one place of the list: `setBk` replaces it there, `dropBk` removes it -/
theorem bks_split {bks : List Bk} {b : Bk} (hn : (bks.map (·.id)).Nodup) (hb : b ∈ bks) :
    ∃ l1 l2, bks = l1 ++ b :: l2 ∧ (∀ b', b'.id = b.id → setBk bks b' = l1 ++ b' :: l2) ∧ dropBk bks b.id = l1 ++ l2 := by
  obtain ⟨l1, l2, rfl⟩ := List.append_of_mem hb
  rw [List.map_append, List.map_cons, List.nodup_append, List.nodup_cons] at hn
  obtain ⟨_, ⟨h2, _⟩, h12⟩ := hn
  have hl1 : ∀ x ∈ l1, x.id ≠ b.id := fun x hx => h12 _ (List.mem_map_of_mem hx) _ (List.mem_cons_self ..)
  have hl2 : ∀ x ∈ l2, x.id ≠ b.id := fun x hx h => h2 (h ▸ List.mem_map_of_mem hx)
  refine ⟨l1, l2, rfl, fun b' hid => ?_, ?_⟩
  · have : setBk (l1 ++ b :: l2) b' = setBk l1 b' ++ (if b.id == b'.id then b' else b) :: setBk l2 b' := List.map_append
    rw [this, if_pos (beq_iff_eq.mpr hid.symm), setBk_absent (hid ▸ hl1), setBk_absent (hid ▸ hl2)]
  · have : dropBk (l1 ++ b :: l2) b.id = dropBk l1 b.id ++ dropBk l2 b.id := by
      simp only [dropBk, List.filter_append, List.filter_cons, bne_self_eq_false, Bool.false_eq_true, if_false]
    rw [this, dropBk_absent hl1, dropBk_absent hl2]

theorem BPc.request_ds (b : BPc) : ∀ pq, b.request .current ≠ .prov pq := by
  intro pq; cases b <;> simp [BPc.request]

theorem dsWrite_createOrReplace {α : Type} (cell : Option (α × Nat)) (v : α) :
    ∃ g', dsWrite cell .createOrReplace v = (some (v, g'), some g') ∧ ∀ o g, cell = some (o, g) → g < g' := by
  cases cell with
  | none => exact ⟨0, rfl, by simp⟩
  | some p => obtain ⟨o, g⟩ := p; exact ⟨g + 1, rfl, by intro o' g' h; simp at h; omega⟩

theorem dsWrite_ok {α : Type} {cell cell' : Option (α × Nat)} {m : DsMode} {v : α} {g' : Nat}
    (h : dsWrite cell m v = (cell', some g')) :
    cell' = some (v, g') ∧ (∀ o g, cell = some (o, g) → g < g') ∧
      ∀ gw, m = .mustReplace (some gw) → ∃ o, cell = some (o, gw) := by
  have up : ∀ {o o' : α} {g g0 : Nat}, some (o, g) = some (o', g0) → g0 < g + 1 :=
    fun he => by cases he; exact Nat.lt_succ_self _
  revert h
  -- the five rows of `dsWrite` that succeed: two on an empty cell, three on a full one
  fun_cases dsWrite cell m v <;> intro h <;> cases h
  · exact ⟨rfl, nofun, nofun⟩
  · exact ⟨rfl, nofun, nofun⟩
  · exact ⟨rfl, fun _ _ => up, nofun⟩
  · exact ⟨rfl, fun _ _ => up, nofun⟩
  · exact ⟨rfl, fun _ _ => up, fun _ he => by cases he; exact ⟨_, rfl⟩⟩

theorem nodeServe_frame {s s1 : SState} {q : SReq} {r : SReply} (h : nodeServe s q = some (s1, r)) :
    ∃ ds as, s1 = { s with ds := ds, attempts := as } := by
  revert h
  fun_cases nodeServe s q <;> intro h <;> cases h <;> exact ⟨_, _, rfl⟩

theorem nodeServe_some {s : SState} {q : SReq} (h : (nodeServe s q).isSome) :
    ∃ ds as r, nodeServe s q = some ({ s with ds := ds, attempts := as }, r) := by
  obtain ⟨⟨s1, r⟩, hres⟩ := Option.isSome_iff_exists.mp h
  obtain ⟨ds, as, rfl⟩ := nodeServe_frame hres
  exact ⟨ds, as, r, hres⟩

theorem nodeServe_writeState {s : SState} {v : DsVal} {m : DsMode} {ds' : Option (DsVal × Nat)} {g : Nat}
    (h : dsWrite s.ds m v = (ds', some g)) :
    nodeServe s (.dsWriteState v m) = some ({ s with ds := ds' }, .written g) := by
  simp only [nodeServe, h]

theorem nodeServe_writeAttempt {s : SState} {aid : Nat} {m : DsMode} {as' : List Nat}
    (h : attemptWrite s.attempts aid m = some as') :
    nodeServe s (.dsWriteAttempt aid m) = some ({ s with attempts := as' }, .written 0) := by
  simp only [nodeServe, h]

theorem nodeServe_writeState_cases {s s1 : SState} {v : DsVal} {m : DsMode} {r : SReply}
    (h : nodeServe s (.dsWriteState v m) = some (s1, r)) :
    (∃ g, r = .written g ∧ s1 = { s with ds := some (v, g) } ∧ (∀ v0 g0, s.ds = some (v0, g0) → g0 < g) ∧
      ∀ gw, m = .mustReplace (some gw) → ∃ v0, s.ds = some (v0, gw)) ∨ (r = .writeErr ∧ s1 = s) := by
  simp only [nodeServe] at h
  split at h <;> cases h
  · rename_i heq
    obtain ⟨rfl, h2, h3⟩ := dsWrite_ok heq
    exact .inl ⟨_, rfl, rfl, h2, h3⟩
  · exact .inr ⟨rfl, rfl⟩

theorem nodeServe_ds_isSome (s : SState) {q : SReq} (h : ∀ pq, q ≠ .prov pq) : (nodeServe s q).isSome := by
  cases q with
  | dsList => rfl
  | dsWriteState | dsWriteAttempt => simp only [nodeServe]; split <;> rfl
  | prov pq => exact absurd rfl (h pq)

theorem nodeServe_waitPart {s : SState} {id : Nat} :
    (nodeServe s (.prov (.waitPart id))).isSome ↔ ∃ p, findPart s.parts id = some p ∧ p.st ≠ .pending := by
  simp only [nodeServe, serveRead]
  cases findPart s.parts id with
  | none => simp
  | some p => cases hst : p.st <;> simp [hst]

theorem nodeServe_pendingIds {s s1 : SState} {q : SReq} {r : SReply} (h : nodeServe s q = some (s1, r)) :
    ∀ ids, r = .prov (.pendingIds ids) → ∀ id ∈ ids, Has s.parts id := by
  intro ids hr id hid
  subst hr
  cases q with
  | prov pq =>
    simp only [nodeServe] at h
    split at h <;> cases h
    rename_i hr
    exact has_pendingIds (serveRead_pendingIds hr ▸ hid)
  | dsList => cases h
  | dsWriteState | dsWriteAttempt => simp only [nodeServe] at h; split at h <;> cases h

theorem nodeFault_cases {s s1 : SState} {q : SReq} {f : Fault} {r : SReply} (h : nodeFault s q f = some (s1, r)) :
    (f = .writeReject ∧ q.isWrite = true ∧ s1 = s ∧ r = .writeErr) ∨
    (f = .writeLostAck ∧ q.isWrite = true ∧ r = .writeErr ∧ ∃ r', nodeServe s q = some (s1, r')) ∨
    (f = .writeLost ∧ q.isWrite = true ∧ s1 = s ∧ ∃ g, r = .written g) ∨
    (f = .readErr ∧ s1 = s ∧ (r = .listErr ∨ r = .prov .rpcErr)) := by
  revert h
  -- the branches of `nodeFault` that succeed: one per write fault, two for a read error
  fun_cases nodeFault s q f <;> intro h <;> cases h
  · exact .inl ⟨rfl, ‹_›, rfl, rfl⟩
  · exact .inr (.inl ⟨rfl, ‹_›, rfl, _, ‹_›⟩)
  · exact .inr (.inr (.inl ⟨rfl, ‹_›, rfl, _, rfl⟩))
  · exact .inr (.inr (.inr ⟨rfl, rfl, .inl rfl⟩))
  · exact .inr (.inr (.inr ⟨rfl, rfl, .inr rfl⟩))

theorem nodeFault_not_pendingIds {s s1 : SState} {q : SReq} {f : Fault} {r : SReply} {ids : List Nat}
    (h : nodeFault s q f = some (s1, r)) : r ≠ .prov (.pendingIds ids) := by
  rcases nodeFault_cases h with ⟨_, _, _, rfl⟩ | ⟨_, _, rfl, _⟩ | ⟨_, _, _, _, rfl⟩ | ⟨_, _, rfl | rfl⟩ <;> nofun

theorem nodeFault_frame {s s1 : SState} {q : SReq} {f : Fault} {r : SReply} (h : nodeFault s q f = some (s1, r)) :
    ∃ ds as, s1 = { s with ds := ds, attempts := as } := by
  rcases nodeFault_cases h with ⟨_, _, rfl, _⟩ | ⟨_, _, _, _, h'⟩ | ⟨_, _, rfl, _⟩ | ⟨_, rfl, _⟩
  · exact ⟨s1.ds, s1.attempts, rfl⟩
  · exact nodeServe_frame h'
  all_goals exact ⟨s1.ds, s1.attempts, rfl⟩

theorem mem_respAll {e : PEntry} {r r' : Resp} {i : Inv} : Out.resp i r' ∈ respAll e r ↔ r' = r ∧ i ∈ e.listeners :=
  ⟨fun h => by obtain ⟨j, hj, hjr⟩ := List.mem_map.mp h; cases hjr; exact ⟨rfl, hj⟩,
   fun ⟨hr, hi⟩ => List.mem_map.mpr ⟨i, hi, hr ▸ rfl⟩⟩

theorem pay_not_mem_respAll {e : PEntry} {r : Resp} {b : Nat} {a : Option Nat} {mf md : Nat} :
    Out.pay b a mf md ∉ respAll e r := by
  intro h
  obtain ⟨_, _, hjr⟩ := List.mem_map.mp h
  cases hjr

end Tramp
