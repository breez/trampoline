/- The system invariant is inductive. -/
import Tramp.Proofs.SysInvPlugin
import Tramp.Proofs.SysRun

namespace Tramp

/-- faults covered by the safety theorems: failed writes (refused, or applied but reported failed).
    Read errors are K2–K4; what an acknowledged-but-lost write leaves behind is among the images C09 quantifies over. -/
def SAct.writeFaultOnly : SAct → Prop
  | .fault _ _ f => f = .writeReject ∨ f = .writeLostAck
  | _ => True

/-- Every step of the system preserves the invariant (write faults included; read faults and lost
    writes excluded). -/
theorem sstep_inv (c : Cfg) {s s' : SState} {outs : List Out} (a : SAct) (h : SInv .current s)
    (hf : a.writeFaultOnly) (hs : sstep c .current s a = some (s', outs)) : SInv .current s' := by
  induction Step.of_sstep hs with
  | env he =>
    induction he with
    | tickMono | tickWall | block => exact sinv_frame h
    | create id hrun hnew => exact sinv_create h hrun hnew
    | resolve id st hst => exact sinv_resolve h hst
    | bkServe id q hb hq hnew hres =>
      obtain ⟨hb', _⟩ := findBk_mem hb
      have h1 := (sinv_nodeServe h (hq ▸ bk_warrant h hb') hres).1
      exact sinv_bk_served h1 hb'
    | bkFault id q f hb hq hnew hres =>
      obtain ⟨hb', _⟩ := findBk_mem hb
      have h1 := (sinv_nodeFault h (hq ▸ bk_warrant h hb') hf hres).1
      exact sinv_bk_served h1 hb'
    | bkNext id q hb hq hr hk =>
      obtain ⟨hb', _⟩ := findBk_mem hb
      obtain ⟨hg, hi⟩ := bkCont_inv hk (h.bks _ hb')
      exact sinv_setBk h hb' rfl hg hi
    | bkDone id => exact sinv_dropBk h
  | crash => exact sinv_crash h
  | arriveNew _ _ _ _ _ hact =>
    refine sinv_owner h (fun hr => ?_) (ownerInv_nil trivial)
    obtain ⟨_, _, _, _, ha, _⟩ := h.payOwn hr
    cases hact.symm.trans ha
  | arrive _ _ _ _ _ hact => exact sinv_owner h (h.running hact) (h.owner _ _ hact)
  | payEnd r hact hpc hrun hnew hok => exact sinv_payEnd h hact hrun hok
  | serveOwner q hact hq hnew hnp hres =>
    obtain ⟨h1, hfact⟩ := sinv_nodeServe h (owner_warrant h hact hq) hres
    exact sinv_owner_served h1 hact hq (hfact _) hnp
  | faultOwner q f hact hq hnew hres =>
    obtain ⟨h1, hw, rfl⟩ := sinv_nodeFault h (owner_warrant h hact hq) hf hres
    exact sinv_owner_served h1 hact hq (oFact_writeErr hw) fun hq' => by subst hq'; cases hw
  | stay q hact hq hr hn | pay q hact hq hr hn | finish q hact hq hr hn | finishBk q hact hq hr hn
  | panic q hact hq hr hn =>
    -- elaborated before it meets the goal, which is slow to unify with `applyONext` at a continuation not yet known
    exact (sinv_move h hact hq hr hn :)
  | timerFire hact hpc | takeFail hact hpc =>
    have hq : s.quiet := h.ownerAt hact hpc
    exact sinv_drop_owner h hq.2
  | takeReady hact hpc | readParams hact hpc | readHeight hact hpc =>
    have hq : s.quiet := h.ownerAt hact hpc
    exact sinv_owner h (fun hr => nomatch hq.2.symm.trans hr) (ownerInv_nil hq)

def WriteFaultsOnly (acts : List SAct) : Prop := ∀ a ∈ acts, a.writeFaultOnly

theorem srun_inv (c : Cfg) (acts : List SAct) (s s' : SState) (h : SInv .current s)
    (hf : WriteFaultsOnly acts) (hr : srun c .current s acts = some s') : SInv .current s' :=
  srun_induction (fun _ a _ _ h ha hs => sstep_inv c a h ha hs) h hf hr

end Tramp
