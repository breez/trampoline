/- M7', the product of all payment hashes: what a step of the whole plugin is for one component (`gstep_comp`, `gstep_shared`,
   `projAct` with `gstep_proj`), and the induction over runs of the product (`grun_induction`). -/
import Tramp.Model.Product

namespace Tramp

theorem setComp_other {f : Nat → SState} {h k : Nat} {s : SState} (hne : k ≠ h) : setComp f h s k = f k :=
  if_neg hne

theorem setComp_same (f : Nat → SState) (h : Nat) (s : SState) : setComp f h s h = s := if_pos rfl

theorem gstep_comp (c : Cfg) (v : SVariant) (g : GState) (h : Nat) (a : SAct) :
    gstep c v g (.comp h a) =
      (sstep c v (g.comps h) a).map fun r => (⟨setComp g.comps h r.1⟩, r.2.map fun o => (h, o)) := by
  simp only [gstep]
  cases sstep c v (g.comps h) a <;> rfl

theorem gstep_shared (c : Cfg) (v : SVariant) (g : GState) {a : GAct} {f : SState → SState}
    (hf : sharedStep a = some f) : gstep c v g a = some (⟨fun k => f (g.comps k)⟩, []) := by
  cases a with
  | comp h x => cases hf
  | _ => simp only [gstep, hf]

theorem grun_cons (c : Cfg) (v : SVariant) (g : GState) (a : GAct) (as : List GAct) :
    grun c v g (a :: as) =
      (gstep c v g a).bind fun r => (grun c v r.1 as).bind fun r' => some (r'.1, r.2 ++ r'.2) := by
  simp only [grun]
  rcases gstep c v g a with _ | ⟨g', o⟩
  · rfl
  · simp only [Option.bind_some]
    rcases grun c v g' as with _ | ⟨g'', os⟩ <;> rfl

theorem grun_induction {c : Cfg} {v : SVariant} {P : GState → Prop} {A : GAct → Prop}
    (hstep : ∀ g a g' outs, P g → A a → gstep c v g a = some (g', outs) → P g')
    {acts : List GAct} {g g' : GState} {outs : List (Nat × Out)} (h : P g) (hA : ∀ a ∈ acts, A a)
    (hr : grun c v g acts = some (g', outs)) : P g' := by
  induction acts generalizing g outs with
  | nil => cases hr; exact h
  | cons a as ih =>
    rw [grun_cons] at hr
    obtain ⟨r, h1, hr⟩ := Option.bind_eq_some_iff.mp hr
    obtain ⟨r', h2, hr⟩ := Option.bind_eq_some_iff.mp hr
    cases hr
    obtain ⟨ha, hA⟩ := List.forall_mem_cons.mp hA
    exact ih (hstep g a r.1 r.2 h ha h1) hA h2

/-- what a global action is for the component of hash `h`: its own action, a shared action, or — an
    action of another hash — nothing, which is the component's step "no time passes" -/
def projAct (h : Nat) : GAct → SAct
  | .comp k a => if k = h then a else .tickMono 0
  | .tickMono dt => .tickMono dt
  | .tickWall dt => .tickWall dt
  | .block n => .block n
  | .crash => .crash

theorem projAct_comp (h : Nat) (a : SAct) : projAct h (.comp h a) = a := if_pos rfl

theorem gstep_proj {c : Cfg} {v : SVariant} {g g' : GState} {a : GAct} {outs : List (Nat × Out)}
    (hs : gstep c v g a = some (g', outs)) (h : Nat) :
    ∃ os, sstep c v (g.comps h) (projAct h a) = some (g'.comps h, os) ∧ ∀ o, (h, o) ∈ outs ↔ o ∈ os := by
  cases a with
  | comp k sa =>
    rw [gstep_comp, Option.map_eq_some_iff] at hs
    obtain ⟨⟨s', os⟩, hst, hr⟩ := hs
    cases hr
    by_cases hk : k = h
    · subst hk
      exact ⟨os, by simp only [projAct_comp, hst, setComp_same], fun o => by simp⟩
    · exact ⟨[], by simp only [projAct, if_neg hk, setComp_other (Ne.symm hk)]; rfl,
        fun o => by simp [hk]⟩
  | _ => cases hs; exact ⟨[], rfl, fun o => by simp⟩

theorem gstep_out {c : Cfg} {g g' : GState} {a : GAct} {outs : List (Nat × Out)} {h : Nat} {o : Out}
    (hs : gstep c .current g a = some (g', outs)) (ho : (h, o) ∈ outs) :
    ∃ sa s' os, sstep c .current (g.comps h) sa = some (s', os) ∧ o ∈ os :=
  have ⟨os, hst, hm⟩ := gstep_proj hs h
  ⟨_, _, os, hst, (hm o).mp ho⟩

theorem gstate_ext {a b : GState} (h : ∀ k, a.comps k = b.comps k) : a = b :=
  congrArg GState.mk (funext h)

end Tramp
