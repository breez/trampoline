/- A reusable induction principle for invariants that only speak about the owner's program counter
   (and the monotonic clock): it is enough that the invariant holds of the program counters the
   internal steps and a fresh arrival create, and that every continuation preserves it. Instances:
   the deadline of a waiting lifecycle is never more than one MPP timeout ahead of the clock (C06, C11
   upper bound); the delay stored in the attempt (and later passed to pay) is bounded by the policy
   delta (C04). -/
import Tramp.Proofs.SysRun

namespace Tramp

structure PcPred (c : Cfg) where
  P : Nat → OPc → Prop
  mono : ∀ {m m' : Nat} {pc : OPc}, m ≤ m' → P m pc → P m' pc
  fetch : ∀ m, P m .fetch
  gotReady : ∀ m, P m .gotReady
  gotParams : ∀ m mf exp, P m (.gotParams mf exp)
  addS : ∀ m aid t mf exp h, P m (.addS aid t mf (maxDelay c exp h))
  paying : ∀ m aid g, P m (.paying aid g .paying)
  panicked : ∀ m, P m .panicked
  cont : ∀ (s : SState) (pc : OPc) (q : SReq) (r : SReply) (pc' : OPc), P s.mono pc →
    (ownerCont c .current s pc q r = .stay pc' → P s.mono pc') ∧
    (∀ mf md, ownerCont c .current s pc q r = .pay pc' mf md → P s.mono pc')

def PcPred.Inv {c : Cfg} (p : PcPred c) (s : SState) : Prop := ∀ e o, s.active = some (e, o) → p.P s.mono o.pc

/-- the invariant is inductive under every action (faults of every kind included) -/
theorem PcPred.step {c : Cfg} (p : PcPred c) {s s' : SState} {outs : List Out} (a : SAct) (h : p.Inv s)
    (hs : sstep c .current s a = some (s', outs)) : p.Inv s' := by
  intro e' o' ha'
  have hm := (Step.of_sstep hs).forward.2.1
  induction Step.of_sstep hs with
  | env he => exact p.mono hm (h e' o' (he.frame.active ▸ ha'))
  | arriveNew => cases ha'; exact p.fetch _
  | arrive _ _ _ _ _ hact | payEnd _ hact | serveOwner _ hact | faultOwner _ _ hact =>
    cases ha'
    exact p.mono hm (h _ _ hact :)
  | stay q hact _ _ hn => cases ha'; exact (p.cont s _ q _ _ (h _ _ hact)).1 hn
  | pay q hact _ _ hn => cases ha'; exact (p.cont s _ q _ _ (h _ _ hact)).2 _ _ hn
  | panic => cases ha'; exact p.panicked _
  | takeReady => cases ha'; exact p.gotReady _
  | readParams => cases ha'; exact p.gotParams _ _ _
  | readHeight => cases ha'; exact p.addS _ _ _ _ _ _
  | crash | finish | finishBk | timerFire | takeFail => cases ha'

theorem PcPred.reachable {c : Cfg} (p : PcPred c) (acts : List SAct) (s : SState)
    (hr : srun c .current SState.init acts = some s) : p.Inv s :=
  srun_invariant (fun _ a _ _ h hs => p.step a h hs) hr (fun _ _ ha => nomatch ha)

def PcOk (c : Cfg) (mono : Nat) : OPc → Prop
  | .waitHtlcs d => d ≤ mono + c.mppTimeout
  | _ => True

/-- every waiting owner has its deadline within one timeout of the clock -/
def DlInv (c : Cfg) (s : SState) : Prop := ∀ e o, s.active = some (e, o) → PcOk c s.mono o.pc

theorem Enters.le {c : Cfg} {s : SState} {pc : OPc} {r : SReply} {tl : Nat} (h : Enters c s pc r tl) :
    tl ≤ c.mppTimeout := by
  induction h with
  | fresh | free => exact Nat.le_refl _
  | restart => exact Nat.sub_le ..

/-- nothing but entering the wait sets a deadline, and that one is at most one timeout ahead -/
def dlPred (c : Cfg) : PcPred c where
  P := PcOk c
  mono := fun {m m' pc} hm h => by
    cases pc with
    | waitHtlcs d => exact Nat.le_trans h (Nat.add_le_add_right hm _)
    | _ => trivial
  fetch := fun _ => trivial
  gotReady := fun _ => trivial
  gotParams := fun _ _ _ => trivial
  addS := fun _ _ _ _ _ _ => trivial
  paying := fun _ _ _ => trivial
  panicked := fun _ => trivial
  cont := by
    intro s pc q r pc' h
    refine ⟨fun hn => ?_, fun mf md hn => ?_⟩
    · induction ownerCont_stay hn with
      | wait _ he => exact Nat.add_le_add_left he.le _
      | idle | mismatch => exact h
      | _ => trivial
    · obtain ⟨_, _, _, rfl⟩ := ownerCont_pay hn
      trivial

/-- `DlInv` is inductive under every action (faults of every kind included) -/
theorem dl_step (c : Cfg) {s s' : SState} {outs : List Out} (a : SAct) (h : DlInv c s)
    (hs : sstep c .current s a = some (s', outs)) : DlInv c s' :=
  (dlPred c).step a h hs

/-- program counters that carry no payment parameters -/
def OPc.noParams : OPc → Prop
  | .gotParams _ _ => False
  | .addS _ _ _ _ => False
  | .addA _ _ _ _ => False
  | _ => True

/-- A continuation leaves the owner where it was, or takes it `addS → addA` with the same parameters,
    or to a program counter without parameters: so a predicate that holds wherever there are no
    parameters and survives `addS → addA` survives every continuation. -/
theorem ownerCont_params {P : OPc → Prop} (hnone : ∀ {pc}, pc.noParams → P pc)
    (hadd : ∀ {aid t mf md} g, P (.addS aid t mf md) → P (.addA aid g mf md))
    (c : Cfg) (v : SVariant) (s : SState) (pc : OPc) (q : SReq) (r : SReply) (pc' : OPc) (h : P pc) :
    (ownerCont c v s pc q r = .stay pc' → P pc') ∧ (∀ mf md, ownerCont c v s pc q r = .pay pc' mf md → P pc') := by
  refine ⟨fun hn => ?_, fun mf md hn => ?_⟩
  · induction ownerCont_stay hn with
    | addS _ _ _ _ _ g => exact hadd g h
    | idle | mismatch => exact h
    | _ => exact hnone trivial
  · obtain ⟨_, _, _, rfl⟩ := ownerCont_pay hn
    exact hnone trivial

theorem maxDelay_le (c : Cfg) (exp height : Nat) :
    maxDelay c exp height ≤ c.policyDelta ∧ maxDelay c exp height ≤ exp - height - c.cltvDelta ∧
    maxDelay c exp height ≤ 65535 :=
  ⟨Nat.min_le_right .., Nat.le_trans (Nat.min_le_left ..) (Nat.min_le_left ..),
    Nat.le_trans (Nat.min_le_left ..) (Nat.min_le_right ..)⟩

def pcDelay (c : Cfg) : OPc → Prop
  | .addS _ _ _ md | .addA _ _ _ md => md ≤ c.policyDelta ∧ md ≤ 65535
  | _ => True

theorem pcDelay_of_noParams {c : Cfg} {pc : OPc} (h : pc.noParams) : pcDelay c pc := by
  cases pc with
  | gotParams | addS | addA => exact h.elim
  | _ => trivial

def delayPred (c : Cfg) : PcPred c where
  P := fun _ pc => pcDelay c pc
  mono := fun _ h => h
  fetch := fun _ => trivial
  gotReady := fun _ => trivial
  gotParams := fun _ _ _ => trivial
  addS := fun _ _ _ _ exp h => ⟨(maxDelay_le c exp h).1, (maxDelay_le c exp h).2.2⟩
  paying := fun _ _ _ => trivial
  panicked := fun _ => trivial
  cont := fun s => ownerCont_params (P := pcDelay c) pcDelay_of_noParams (fun _ h => h) c .current s

end Tramp
